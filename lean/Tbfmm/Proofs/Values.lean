import Tbfmm.Proofs.FarField
import Tbfmm.Proofs.PeriodicImages
/-!
C01, C09, C10 at the level of values: after a full run on built trees, with the kernel the driver runs, the result of a
particle is the far field of `far_field` plus one contribution per accepted shift of the direct pass; the counts
`pairs_total`, `images_total`, `far_count` make that "every other particle once" (periodic: every image once).
-/
namespace Tbfmm

/-- M2L calls that refine the specification's non-periodic transfer lists give the locals `Aval` (`m2l_phase_eval`) -/
theorem transferGives_Aval (q : Nat) {D H upper b : Nat} (poT poS : Nat → List Nat) {cellsT cellsS : Nat → List Nat}
    (hndT : ∀ ℓ, (cellsT ℓ).Nodup) (hndS : ∀ ℓ, (cellsS ℓ).Nodup) {m2l : List Call}
    (hform : ∀ c ∈ m2l, ∃ lv t srcs, c = .m2l lv t srcs)
    (helems : (m2l.flatMap elemsOfCall).Perm
      ((List.range' upper (H - 1 + 1 - upper)).flatMap fun ℓ => specM2LLevel D false ℓ (cellsT ℓ) (cellsS ℓ))) :
    TransferGives q D H upper b poT poS m2l (Aval D (H-1) upper cellsT cellsS b) :=
  fun hu s hm hl => (m2l_phase_eval q D (H-1) poT poS cellsT cellsS b hndT hndS upper hu m2l hform helems s hm hl).1

/-- the periodic lists give `AvalP`, one per accepted image shift (`m2l_phase_eval_per`) -/
theorem transferGives_AvalP (q : Nat) {D H upper b : Nat} (poT poS : Nat → List Nat) {cellsAt : Nat → List Nat}
    (hnd : ∀ ℓ, (cellsAt ℓ).Nodup) {m2l : List Call} (hform : ∀ c ∈ m2l, ∃ lv t srcs, c = .m2l lv t srcs)
    (helems : (m2l.flatMap elemsOfCall).Perm
      ((List.range' upper (H - 1 + 1 - upper)).flatMap fun ℓ => specM2LLevel D true ℓ (cellsAt ℓ) (cellsAt ℓ))) :
    TransferGives q D H upper b poT poS m2l (AvalP D (H-1) upper cellsAt b) :=
  fun _ _ hm hl => (m2l_phase_eval_per (wq q) poT poS hnd hform helems hm hl).1

theorem BuiltFacts.seq_result {D H : Nat} {T : Tree} {ls : List Leaf} (F : BuiltFacts D H T ls) (hH : 1 ≤ H) (periodic : Bool)
    (upper q p : Nat) {a b : Nat} (ha : a ∈ ls.map (·.idx)) (hb : b ∈ ls.map (·.idx))
    (hp : ∀ i ∈ ls.map (·.idx), (T.partsOf i).count p = if i = a then 1 else 0)
    (hq : ∀ i ∈ ls.map (·.idx), (T.partsOf i).count q = if i = b then 1 else 0) {A : Nat → Nat → Nat}
    (hm2l : TransferGives q D H upper b T.partsOf T.partsOf (m2lAll T periodic upper) A) :
    (applyCalls (wq q) (H-1) T.partsOf T.partsOf {} (executeSeq T periodic 63 upper)).r p =
      sumOver (List.range' upper (H - 1 + 1 - upper)) (fun ℓ => A ℓ (anc D (H-1) ℓ a)) +
      (sumOver (levelShifts D periodic (H-1)) (fun k => if perP2PTest D (H-1) a b k then 1 else 0) +
       sumOver (levelShifts D periodic (H-1)) (fun k => if perP2PTest D (H-1) b a k then 1 else 0)) +
      ((if a = b then 1 else 0) - wq q p) := by
  obtain ⟨resForm, resElems⟩ := F.results_refines hH periodic upper
  obtain ⟨far, hr⟩ := far_field F F hH q ha hb hq upper m2lAll_form hm2l
  rw [executeSeq_all, applyCalls_append, F.hD, F.hH, results_eval_split (H-1) F.nodup ha hp hq resForm resElems (hr p), far,
    p2p_sum D (H-1) F.nodup ha hp hq periodic, if_pos hb]

theorem pairs_total (D L : Nat) {a b : Nat} (hba : a < 2^(D*L)) (hbb : b < 2^(D*L)) (u : Nat) {leaves : List Nat}
    (ha : a ∈ leaves) (hb : b ∈ leaves) (hu : u ≤ 2) :
    sumOver (List.range' u (L + 1 - u))
        (fun ℓ => Aval D L u (fun ℓ => specCells D L leaves ℓ) (fun ℓ => specCells D L leaves ℓ) b ℓ (anc D L ℓ a)) +
      (sumOver (levelShifts D false L) (fun k => if perP2PTest D L a b k then 1 else 0) +
       sumOver (levelShifts D false L) (fun k => if perP2PTest D L b a k then 1 else 0)) +
      (if a = b then 1 else 0) = 1 := by
  -- `image_once` for the zero shift, the only one: `b` itself is the image, and it is `a` iff `a = b`
  have once : (if Far.adj (decode D L a) (decode D L b) then 0 else 1) +
      (if perP2PTest D L a b (List.replicate D 0) then 1 else 0) + (if perP2PTest D L b a (List.replicate D 0) then 1 else 0) =
      if a = b then 0 else 1 := by
    have h := image_once D L a b (List.replicate D 0) List.length_replicate
    rw [List.map_replicate, Int.neg_zero, vadd_decode_zero] at h
    simpa only [toI_decode_inj D L hbb hba, eq_comm (a := b), adjV_toI] using h
  rw [far_count D L u ha hb hu, levelShifts_false, sumOver_cons, sumOver_nil, sumOver_cons, sumOver_nil,
    Nat.add_zero, Nat.add_zero, ← Nat.add_assoc, once]
  split <;> rfl

theorem C01_values (D H bs : Nat) (mode : Bool) (leafIdx : List Nat) (upper : Nat)
    (hbs : 0 < bs) (hne : leafIdx ≠ []) (hH : 1 ≤ H) (hlt : ∀ i ∈ leafIdx, i < 2^(D*(H-1))) (hu : upper ≤ 2)
    (p q : Nat) (hp : p < leafIdx.length) (hq : q < leafIdx.length) :
    (applyCalls (wq q) (H-1) (Tree.build D H bs mode leafIdx).partsOf (Tree.build D H bs mode leafIdx).partsOf {}
      (executeSeq (Tree.build D H bs mode leafIdx) false 63 upper)).r p = if p = q then 0 else 1 := by
  have F := built_facts D H bs mode leafIdx hbs hne hH hlt
  have hP := built_parts D H bs mode leafIdx hbs
  -- `p` sits in leaf `a`, `q` in leaf `b`
  obtain ⟨a, ha, hpa⟩ := F.leaf_of hP p hp
  obtain ⟨b, hb, hqb⟩ := F.leaf_of hP q hq
  -- nothing but `F` and these is used of the tree: as a variable it keeps the terms small
  generalize Tree.build D H bs mode leafIdx = T at *
  generalize T.pgroups.flatten = ls at *
  -- the transfer phase turns "the ancestors of `b` hold `q` once" into the locals `Aval`
  have transfer := transferGives_Aval q (b := b) T.partsOf T.partsOf (fun _ => specCells_nodup) (fun _ => specCells_nodup)
    m2lAll_form (F.m2lAll_refines_range' hH false upper)
  -- far field + direct pairs + own leaf (`seq_result`), of which `pairs_total` counts 1 in all
  rw [F.seq_result hH false upper q p ha hb hpa hqb transfer,
    value_of_total (by rw [hpa a ha, if_pos rfl]) (hqb a ha)
      (pairs_total D (H-1) (F.bound _ ha) (F.bound _ hb) upper ha hb hu)]
  split <;> rfl

theorem C01_values_periodic (D H bs : Nat) (mode : Bool) (leafIdx : List Nat) (upper : Nat)
    (hbs : 0 < bs) (hne : leafIdx ≠ []) (hH : 1 ≤ H) (hlt : ∀ i ∈ leafIdx, i < 2^(D*(H-1))) (hu : upper ≤ 1)
    (p q : Nat) (hp : p < leafIdx.length) (hq : q < leafIdx.length) :
    (applyCalls (wq q) (H-1) (Tree.build D H bs mode leafIdx).partsOf (Tree.build D H bs mode leafIdx).partsOf {}
      (executeSeq (Tree.build D H bs mode leafIdx) true 63 upper)).r p = 3^D - (if p = q then 1 else 0) := by
  have F := built_facts D H bs mode leafIdx hbs hne hH hlt
  have hP := built_parts D H bs mode leafIdx hbs
  obtain ⟨a, ha, hpa⟩ := F.leaf_of hP p hp
  obtain ⟨b, hb, hqb⟩ := F.leaf_of hP q hq
  generalize Tree.build D H bs mode leafIdx = T at *
  generalize T.pgroups.flatten = ls at *
  -- as in `C01_values`, with the periodic lists: the locals become `AvalP`, one per accepted image shift
  have transfer := transferGives_AvalP q (b := b) T.partsOf T.partsOf (fun _ => specCells_nodup) m2lAll_form
    (F.m2lAll_refines_range' hH true upper)
  rw [F.seq_result hH true upper q p ha hb hpa hqb transfer,
    value_of_total (by rw [hpa a ha, if_pos rfl]) (hqb a ha)
      (images_total D (H-1) (F.bound _ ha) (F.bound _ hb) upper ha hb hu)]

theorem results_eval_tsm {q p : Nat} (D L : Nat) {poT poS : Nat → List Nat} {leavesT leavesS : List Nat} {a b : Nat}
    (hnT : leavesT.Nodup) (hnS : leavesS.Nodup) (ha : a ∈ leavesT)
    (hp : ∀ i ∈ leavesT, (poT i).count p = if i = a then 1 else 0)
    (hq : ∀ i ∈ leavesS, (poS i).count q = if i = b then 1 else 0)
    {act : Bool} {cs : List Call} (hform : ∀ c ∈ cs, isResultCall poT c)
    (helems : (cs.flatMap elemsOfCall).Perm ((if act then leavesT.map (fun i => Elem.l2p i (poT i).length) else []) ++
        specP2PTsm D false L leavesT leavesS))
    {s : State} (hr : s.r p = 0) :
    (applyCalls (wq q) L poT poS s cs).r p =
      (if act then s.l L a else 0) +
      (if Elem.p2pTsm b a (p2pCode D L a b) ∈ specP2PTsm D false L leavesT leavesS then 1 else 0) := by
  rw [results_l2p (wq q) L poS hnT ha hp hform helems hr, specP2PTsm_eq,
    ← count_shifts_np (fun _ _ _ => rfl) a b (by rw [vadd_decode_zero, p2pCode]),
    sumOver_triples (fun t s' => (if t = a then 1 else 0) * (if s' = b then 1 else 0))
      (fun t ht s' hs' _ => by simp only [cR, sumW_wq, hp t ht, hq s' hs']),
    sumOver_pair_ind hnT hnS a b]

theorem C09_values (D H bsS bsT : Nat) (modeS modeT : Bool) (srcIdx tgtIdx : List Nat) (upper : Nat)
    (hbsS : 0 < bsS) (hbsT : 0 < bsT) (hneS : srcIdx ≠ []) (hneT : tgtIdx ≠ []) (hH : 1 ≤ H)
    (hltS : ∀ i ∈ srcIdx, i < 2^(D*(H-1))) (hltT : ∀ i ∈ tgtIdx, i < 2^(D*(H-1))) (hu : upper ≤ 2)
    (p q : Nat) (hp : p < tgtIdx.length) (hq : q < srcIdx.length) :
    (applyCalls (wq q) (H-1) (Tree.build D H bsT modeT tgtIdx).partsOf (Tree.build D H bsS modeS srcIdx).partsOf {}
      (executeTsm (Tree.build D H bsS modeS srcIdx) (Tree.build D H bsT modeT tgtIdx) false 63 upper)).r p = 1 := by
  have FS := built_facts D H bsS modeS srcIdx hbsS hneS hH hltS
  have FT := built_facts D H bsT modeT tgtIdx hbsT hneT hH hltT
  obtain ⟨b, hb, hqb⟩ := FS.leaf_of (built_parts D H bsS modeS srcIdx hbsS) q hq
  obtain ⟨a, ha, hpa⟩ := FT.leaf_of (built_parts D H bsT modeT tgtIdx hbsT) p hp
  generalize Tree.build D H bsS modeS srcIdx = tS at *
  generalize Tree.build D H bsT modeT tgtIdx = tT at *
  generalize tS.pgroups.flatten = lsS at *
  generalize tT.pgroups.flatten = lsT at *
  obtain ⟨resForm, resElems⟩ := results_refines_tsm FS FT hH false upper
  -- the transfer phase turns "the ancestors of `b` hold `q` once" into the locals `Aval`
  have transfer := transferGives_Aval q (b := b) tT.partsOf tS.partsOf (fun _ => specCells_nodup) (fun _ => specCells_nodup)
    m2lAllTsm_form (m2lAllTsm_refines_range' FS FT hH false upper)
  obtain ⟨far, hr⟩ := far_field FS FT hH q ha hb hqb upper m2lAllTsm_form transfer
  rw [executeTsm_all, if_neg Bool.false_ne_true, applyCalls_append, FT.hD, FT.hH,
    results_eval_tsm D (H-1) FT.nodup FS.nodup ha hpa hqb resForm resElems (hr p), far, far_count D (H-1) upper ha hb hu]
  -- adjacent (or equal) leaves are served by the direct pass, the others by the transfers
  by_cases hadj : Far.adj (decode D (H-1) a) (decode D (H-1) b)
  · rw [if_pos hadj, if_pos (mem_specP2PTsm_np.2 ⟨ha, hb, hadj, rfl⟩)]
  · rw [if_neg hadj, if_neg (fun h => hadj (adj_of_mem_specP2PTsm_np h))]

end Tbfmm
