import Tbfmm.Proofs.Phases
import Tbfmm.Proofs.SpecSums
/-!
Result phases for one source particle `q` (leaf `b`) and one target particle `p` (leaf `a`): the direct pass counts
accepted image shifts in both orientations, the in-leaf pass the other particles of the leaf.
-/
namespace Tbfmm

theorem p2p_count_np (D L : Nat) (leaves : List Nat) (t s : Nat) :
    (if t ∈ leaves ∧ s ∈ leaves then sumOver (levelShifts D false L) (fun k => if perP2PTest D L t s k then 1 else 0) else 0) =
      if Elem.p2p s t (p2pCode D L t s) ∈ specP2P D false L leaves then 1 else 0 := by
  rw [specP2P_eq]
  exact count_shifts_np (fun _ _ _ => rfl) t s (by rw [vadd_decode_zero, p2pCode])

section
variable (w : Nat → Nat) (L : Nat) {po : Nat → List Nat} (po' : Nat → List Nat) {p : Nat} {leaves : List Nat} {a : Nat}
  (hn : leaves.Nodup) (ha : a ∈ leaves) (hp : ∀ i ∈ leaves, (po i).count p = if i = a then 1 else 0)
include hn ha hp

/-- `act`: whether L2P runs at all; on a built tree it is `decide (H > upper)` -/
theorem results_l2p {act : Bool} {cs : List Call} (hform : ∀ c ∈ cs, isResultCall po c) {rest : List Elem}
    (helems : (cs.flatMap elemsOfCall).Perm ((if act then leaves.map (fun i => Elem.l2p i (po i).length) else []) ++ rest))
    {s : State} (hr : s.r p = 0) :
    (applyCalls w L po po' s cs).r p = (if act then s.l L a else 0) + sumOver rest (cR w L po po' s p) := by
  rw [(phase_results w L po po' cs hform s).1, hr, Nat.zero_add, sumOver_perm _ helems, sumOver_append]
  cases act
  · rfl
  · rw [if_pos rfl, if_pos rfl, sumOver_map]
    exact congrArg (· + _) (sumOver_at hn ha hp (fun i => s.l L i))

theorem inner_sum (s : State) : sumOver (leaves.map Elem.p2pInner) (cR w L po po' s p) = sumW w (po a) - w p := by
  rw [sumOver_map]
  exact sumOver_at hn ha hp (fun i => sumW w (po i) - w p)

end

section
variable {q p : Nat} (D L : Nat) {po : Nat → List Nat} {leaves : List Nat} {a b : Nat}
  (hn : leaves.Nodup) (ha : a ∈ leaves)
  (hp : ∀ i ∈ leaves, (po i).count p = if i = a then 1 else 0)
  (hq : ∀ i ∈ leaves, (po i).count q = if i = b then 1 else 0)

include hn ha hp hq

theorem p2p_sum (periodic : Bool) (s : State) :
    sumOver (specP2P D periodic L leaves) (cR (wq q) L po po s p) =
      if b ∈ leaves then
        sumOver (levelShifts D periodic L) (fun k => if perP2PTest D L a b k then 1 else 0) +
        sumOver (levelShifts D periodic L) (fun k => if perP2PTest D L b a k then 1 else 0) else 0 := by
  rw [specP2P_eq, sumOver_triples
    (fun t s' => (if t = a then 1 else 0) * (if s' = b then 1 else 0) + (if t = b then 1 else 0) * (if s' = a then 1 else 0))
    (fun t ht s' hs' _ => by
      simp only [cR, sumW_wq, hp t ht, hp s' hs', hq t ht, hq s' hs']
      rw [Nat.mul_comm (if s' = a then 1 else 0)])]
  simp only [Nat.mul_add, sumOver_add]
  rw [sumOver_pair_ind hn hn a b, sumOver_pair_ind hn hn b a]
  by_cases hb : b ∈ leaves <;> simp [ha, hb]

theorem results_eval_split {act : Bool} {cs : List Call} (hform : ∀ c ∈ cs, isResultCall po c) {P2P : List Elem}
    (helems : (cs.flatMap elemsOfCall).Perm ((if act then leaves.map (fun i => Elem.l2p i (po i).length) else []) ++
        (P2P ++ leaves.map Elem.p2pInner)))
    {s : State} (hr : s.r p = 0) :
    (applyCalls (wq q) L po po s cs).r p =
      (if act then s.l L a else 0) + sumOver P2P (cR (wq q) L po po s p) + ((if a = b then 1 else 0) - wq q p) := by
  rw [results_l2p (wq q) L po hn ha hp hform helems hr, sumOver_append, inner_sum (wq q) L po hn ha hp, sumW_wq, hq a ha,
    Nat.add_assoc]

end

section
variable (q p : Nat) (D L : Nat) (po : Nat → List Nat) (leaves : List Nat) (a b : Nat)
  (hn : leaves.Nodup) (ha : a ∈ leaves)
  (hp : ∀ i ∈ leaves, (po i).count p = if i = a then 1 else 0)
  (hq : ∀ i ∈ leaves, (po i).count q = if i = b then 1 else 0)

include hn ha hp hq

/-- result phases: what the particle `p` of leaf `a` receives from the source particle `q` of leaf `b` -/
theorem results_eval (act : Bool) (cs : List Call) (hform : ∀ c ∈ cs, isResultCall po c)
    (helems : (cs.flatMap elemsOfCall).Perm ((if act then leaves.map (fun i => Elem.l2p i (po i).length) else []) ++
        (specP2P D false L leaves ++ leaves.map Elem.p2pInner)))
    (s : State) (hr : s.r p = 0) :
    (applyCalls (wq q) L po po s cs).r p =
      (if act then s.l L a else 0) +
      (if Elem.p2p b a (p2pCode D L a b) ∈ specP2P D false L leaves then 1 else 0) +
      (if Elem.p2p a b (p2pCode D L b a) ∈ specP2P D false L leaves then 1 else 0) +
      ((if a = b then 1 else 0) - wq q p) := by
  rw [results_eval_split L hn ha hp hq hform helems hr, p2p_sum D L hn ha hp hq false s, ← p2p_count_np, ← p2p_count_np]
  by_cases hb : b ∈ leaves <;> simp [ha, hb, Nat.add_assoc]

end

/-- `X`: far field and direct pairs; `M`: the number of images of a leaf -/
theorem value_of_total {po : Nat → List Nat} {p q a b : Nat} (hp : (po a).count p = 1) (hq : (po a).count q = if a = b then 1 else 0)
    {X M : Nat} (tot : X + (if a = b then 1 else 0) = M) :
    X + ((if a = b then 1 else 0) - wq q p) = M - if p = q then 1 else 0 := by
  have hwq : wq q p = if p = q then 1 else 0 := rfl
  by_cases hab : a = b
  · rw [if_pos hab] at tot ⊢
    rw [hwq, ← tot]
    split <;> rfl
  · -- different leaves, so different particles
    have hpq : p ≠ q := fun e => by rw [e, hq, if_neg hab] at hp; exact absurd hp (by decide)
    rw [if_neg hab] at tot ⊢
    rw [hwq, if_neg hpq]
    omega

end Tbfmm
