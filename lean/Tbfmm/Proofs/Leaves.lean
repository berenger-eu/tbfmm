import Tbfmm.Model.Exec
import Tbfmm.Proofs.ListLemmas
namespace Tbfmm

def pairsOf (ls : List Leaf) : List (Nat × Nat) := ls.flatMap fun l => l.parts.map fun p => (l.idx, p)

def addPair (i p : Nat) : List Leaf → List Leaf
  | [] => [⟨i, [p]⟩]
  | l :: ls => if l.idx = i then ⟨i, p :: l.parts⟩ :: ls else ⟨i, [p]⟩ :: l :: ls

theorem leavesOf_cons (i p : Nat) (rest : List (Nat × Nat)) : leavesOf ((i, p) :: rest) = addPair i p (leavesOf rest) := by
  rw [leavesOf]
  cases leavesOf rest <;> rfl

/-- either a new leaf is opened (the head of `ls` has another index) or the pair joins the first leaf of `ls` -/
theorem addPair_cases (i p : Nat) (ls : List Leaf) :
    ∃ ps ls', addPair i p ls = ⟨i, p :: ps⟩ :: ls' ∧
      ((ps = [] ∧ ls' = ls ∧ ∀ l ∈ ls.head?, l.idx ≠ i) ∨ ls = ⟨i, ps⟩ :: ls') := by
  cases ls with
  | nil => exact ⟨[], [], rfl, Or.inl ⟨rfl, rfl, fun _ h => nomatch h⟩⟩
  | cons l ls =>
    rw [addPair]
    split
    · next h => exact ⟨l.parts, ls, rfl, Or.inr (h ▸ rfl)⟩
    · next h => exact ⟨[], l :: ls, rfl, Or.inl ⟨rfl, rfl, fun _ h' => Option.some.inj h' ▸ h⟩⟩

theorem pairsOf_leavesOf (xs : List (Nat × Nat)) : pairsOf (leavesOf xs) = xs := by
  induction xs with
  | nil => rfl
  | cons x xs ih =>
    obtain ⟨ps, ls', h1, h2⟩ := addPair_cases x.1 x.2 (leavesOf xs)
    rw [leavesOf_cons, h1]
    rcases h2 with ⟨rfl, rfl, -⟩ | h2
    · exact congrArg (x :: ·) ih
    · rw [h2] at ih
      exact congrArg (x :: ·) ih

theorem leavesOf_parts_ne_nil (xs : List (Nat × Nat)) : ∀ l ∈ leavesOf xs, l.parts ≠ [] := by
  induction xs with
  | nil => simp [leavesOf]
  | cons x xs ih =>
    obtain ⟨ps, ls', h1, h2⟩ := addPair_cases x.1 x.2 (leavesOf xs)
    rw [leavesOf_cons, h1]
    intro l hl
    rcases List.mem_cons.mp hl with rfl | hl
    · exact List.cons_ne_nil _ _
    · rcases h2 with ⟨-, rfl, -⟩ | h2
      · exact ih l hl
      · exact ih l (h2 ▸ List.mem_cons_of_mem _ hl)

theorem leavesOf_head (i p : Nat) (xs : List (Nat × Nat)) :
    ∃ l ls, leavesOf ((i, p) :: xs) = l :: ls ∧ l.idx = i := by
  obtain ⟨ps, ls', h1, -⟩ := addPair_cases i p (leavesOf xs)
  exact ⟨_, _, (leavesOf_cons i p xs).trans h1, rfl⟩

theorem leavesOf_idx_mem (xs : List (Nat × Nat)) (l : Leaf) (hl : l ∈ leavesOf xs) : ∃ p, (l.idx, p) ∈ xs := by
  obtain ⟨q, hq⟩ := List.exists_mem_of_ne_nil _ (leavesOf_parts_ne_nil xs l hl)
  refine ⟨q, ?_⟩
  rw [← pairsOf_leavesOf xs]
  exact List.mem_flatMap.mpr ⟨l, hl, List.mem_map.mpr ⟨q, hq, rfl⟩⟩

theorem leavesOf_sorted (xs : List (Nat × Nat)) (hs : xs.Pairwise (fun a b => a.1 ≤ b.1)) :
    ((leavesOf xs).map (·.idx)).Pairwise (· < ·) := by
  induction xs with
  | nil => simp [leavesOf]
  | cons x xs ih =>
    obtain ⟨hx, hs⟩ := List.pairwise_cons.mp hs
    have ih := ih hs
    have hge : ∀ l ∈ leavesOf xs, x.1 ≤ l.idx := fun l hl => by
      obtain ⟨q, hq⟩ := leavesOf_idx_mem xs l hl
      exact hx _ hq
    obtain ⟨ps, ls', h1, h2⟩ := addPair_cases x.1 x.2 (leavesOf xs)
    rw [leavesOf_cons, h1]
    rcases h2 with ⟨-, rfl, hne⟩ | h2
    · -- a new leaf: the tail's first leaf has another index, so a larger one, and the others follow it
      refine List.pairwise_cons.mpr ⟨fun a ha => ?_, ih⟩
      cases hls : leavesOf xs with
      | nil => rw [hls] at ha; exact nomatch ha
      | cons l1 rest =>
        rw [hls] at ha ih hge hne
        have hlt : x.1 < l1.idx := Nat.lt_of_le_of_ne (hge l1 List.mem_cons_self) (Ne.symm (hne l1 rfl))
        rcases List.mem_cons.mp ha with rfl | ha
        · exact hlt
        · exact Nat.lt_trans hlt ((List.pairwise_cons.mp ih).1 a ha)
    · -- the pair joins the tail's first leaf: the indices are the tail's
      rwa [h2] at ih

theorem sortPairs_perm (xs : List (Nat × Nat)) : (sortPairs xs).Perm xs := List.mergeSort_perm _ _

theorem sortPairs_sorted (xs : List (Nat × Nat)) : (sortPairs xs).Pairwise (fun a b => a.1 ≤ b.1) :=
  pairwise_mergeSort_key (·.1) xs

theorem splitEvery_spec {α} (bs : Nat) (hbs : 0 < bs) (fuel : Nat) (xs : List α) (hf : xs.length ≤ fuel) :
    (splitEvery bs fuel xs).flatten = xs ∧ (∀ g ∈ splitEvery bs fuel xs, g ≠ [] ∧ g.length ≤ bs) := by
  fun_induction splitEvery bs fuel xs with
  | case1 xs => exact ⟨(List.eq_nil_of_length_eq_zero (Nat.le_zero.mp hf)).symm, fun _ h => nomatch h⟩
  | case2 f xs h => omega
  | case3 f xs _ he => exact ⟨(List.isEmpty_iff.mp he).symm, fun _ h => nomatch h⟩
  | case4 f xs _ he ih =>
    obtain ⟨ih1, ih2⟩ := ih (by rw [List.length_drop]; omega)
    refine ⟨by rw [List.flatten_cons, ih1, List.take_append_drop], fun g hg => ?_⟩
    rcases List.mem_cons.mp hg with rfl | hg
    · refine ⟨fun h => he ?_, by rw [List.length_take]; exact Nat.min_le_left _ _⟩
      rw [List.take_eq_nil_iff] at h
      exact h.elim (fun h => absurd h (by omega)) (fun h => by rw [h]; rfl)
    · exact ih2 g hg

theorem Tree.stored_eq (t : Tree) : t.stored = pairsOf t.pgroups.flatten := by
  rw [Tree.stored, pairsOf, List.flatten_eq_flatMap, List.flatMap_assoc]
  rfl

theorem Tree.leafGroups_flatten (t : Tree) : t.leafGroups.flatten = t.pgroups.flatten.map (·.idx) := by
  rw [Tree.leafGroups, List.map_flatten]

theorem build_pgroups (D H bs : Nat) (mode : Bool) (leafIdx : List Nat) :
    (Tree.build D H bs mode leafIdx).pgroups =
      splitEvery bs (leavesOf (sortPairs leafIdx.zipIdx)).length (leavesOf (sortPairs leafIdx.zipIdx)) := by
  unfold Tree.build
  split
  · next h => rw [List.isEmpty_iff.mp h]; simp [sortPairs, leavesOf, splitEvery]
  · rfl

theorem build_pgroups_flatten (D H bs : Nat) (mode : Bool) (leafIdx : List Nat) (hbs : 0 < bs) :
    (Tree.build D H bs mode leafIdx).pgroups.flatten = leavesOf (sortPairs leafIdx.zipIdx) := by
  rw [build_pgroups]
  exact (splitEvery_spec bs hbs _ _ (Nat.le_refl _)).1

theorem build_leafGroups_flatten (D H bs : Nat) (mode : Bool) (leafIdx : List Nat) (hbs : 0 < bs) :
    (Tree.build D H bs mode leafIdx).leafGroups.flatten = (leavesOf (sortPairs leafIdx.zipIdx)).map (·.idx) := by
  rw [Tree.leafGroups_flatten, build_pgroups_flatten D H bs mode leafIdx hbs]

/-- **C06 (permutation)**: a built tree stores every input particle exactly once, under its computed leaf index -/
theorem C06_stored_perm (D H bs : Nat) (mode : Bool) (leafIdx : List Nat) (hbs : 0 < bs) :
    (Tree.build D H bs mode leafIdx).stored.Perm leafIdx.zipIdx := by
  rw [Tree.stored_eq, build_pgroups_flatten D H bs mode leafIdx hbs, pairsOf_leavesOf]
  exact sortPairs_perm _

/-- **C07 (leaf level)**: the leaf indices of a built tree increase strictly across its particle groups, which are
    non-empty and hold at most `bs` leaves -/
theorem C07_leaf_groups (D H bs : Nat) (mode : Bool) (leafIdx : List Nat) (hbs : 0 < bs) :
    ((Tree.build D H bs mode leafIdx).leafGroups.flatten).Pairwise (· < ·) ∧
    (∀ g ∈ (Tree.build D H bs mode leafIdx).leafGroups, g ≠ [] ∧ g.length ≤ bs) := by
  rw [build_leafGroups_flatten D H bs mode leafIdx hbs]
  refine ⟨leavesOf_sorted _ (sortPairs_sorted _), fun g hg => ?_⟩
  obtain ⟨g0, hg0, rfl⟩ := List.mem_map.mp hg
  rw [build_pgroups] at hg0
  simpa using (splitEvery_spec bs hbs _ _ (Nat.le_refl _)).2 g0 hg0

theorem build_leafGroups_ne (D H bs : Nat) (mode : Bool) (leafIdx : List Nat) (hbs : 0 < bs) (hne : leafIdx ≠ []) :
    (Tree.build D H bs mode leafIdx).leafGroups ≠ [] := by
  intro he
  have hlen := (C06_stored_perm D H bs mode leafIdx hbs).length_eq
  have : (Tree.build D H bs mode leafIdx).pgroups = [] := by simpa [Tree.leafGroups] using he
  rw [Tree.stored, this, List.length_zipIdx] at hlen
  exact hne (List.eq_nil_of_length_eq_zero hlen.symm)

/-- **C13**: the stored original indices are a permutation of `0 … N-1`: gathering by them (rebuild, bulk export)
    writes every slot exactly once -/
theorem C13_indices_perm (D H bs : Nat) (mode : Bool) (leafIdx : List Nat) (hbs : 0 < bs) :
    ((Tree.build D H bs mode leafIdx).stored.map (·.2)).Perm (List.range leafIdx.length) := by
  have h := (C06_stored_perm D H bs mode leafIdx hbs).map (·.2)
  rwa [List.zipIdx_map_snd, ← List.range_eq_range'] at h

/-- every particle is stored under the leaf index computed for it -/
theorem C06_leaf_of_particle (D H bs : Nat) (mode : Bool) (leafIdx : List Nat) (hbs : 0 < bs) :
    ∀ x ∈ (Tree.build D H bs mode leafIdx).stored, leafIdx[x.2]? = some x.1 :=
  fun _ hx => List.mem_zipIdx_iff_getElem?.mp ((C06_stored_perm D H bs mode leafIdx hbs).mem_iff.mp hx)

theorem build_leaf_idx (D H bs : Nat) (mode : Bool) (leafIdx : List Nat) (hbs : 0 < bs) :
    ∀ l ∈ (Tree.build D H bs mode leafIdx).pgroups.flatten, l.idx ∈ leafIdx := by
  intro l hl
  rw [build_pgroups_flatten D H bs mode leafIdx hbs] at hl
  obtain ⟨p, hp⟩ := leavesOf_idx_mem _ l hl
  exact List.mem_of_getElem? (List.mem_zipIdx_iff_getElem?.mp ((sortPairs_perm _).subset hp))

end Tbfmm
