import Tbfmm.Proofs.Phases
/-!
Linearity in the weights connects the indicator weights of the value theorems with the packed weights the driver uses;
it holds because every contribution (`cM`, `cL`, `cR`) is linear in the weights and the state it reads.
The side condition is `readsOnly ok po po' c`: the call reads weights of particles in `ok` only (`elemOk`: the same for one
elementary interaction); `callOk`, at the end, is the stronger condition two statements are worded with.
-/
namespace Tbfmm

theorem lin_add {a b x x1 x2 y y1 y2 : Nat} (hx : x = a * x1 + b * x2) (hy : y = a * y1 + b * y2) :
    x + y = a * (x1 + y1) + b * (x2 + y2) := by
  rw [hx, hy, Nat.mul_add, Nat.mul_add]; omega

theorem lin_mul {a b x x1 x2 : Nat} (n : Nat) (hx : x = a * x1 + b * x2) : n * x = a * (n * x1) + b * (n * x2) := by
  rw [hx, Nat.mul_add, Nat.mul_left_comm, Nat.mul_left_comm n b]

/-- the subtraction in the in-leaf call is exact -/
theorem sumW_sub_mem (w : Nat → Nat) {ps : List Nat} {p : Nat} (h : p ∈ ps) : sumW w ps - w p = sumW w (ps.erase p) := by
  rw [sumW_eq_sumOver, sumW_eq_sumOver, sumOver_perm w (List.perm_cons_erase h), sumOver_cons, Nat.add_sub_cancel_left]

/-- accessor-wise linear combination of states -/
structure Lin3 (a b : Nat) (s s1 s2 : State) : Prop where
  m : ∀ l i, s.m l i = a * s1.m l i + b * s2.m l i
  l : ∀ l i, s.l l i = a * s1.l l i + b * s2.l l i
  r : ∀ p, s.r p = a * s1.r p + b * s2.r p

/-- every particle whose weight the call reads is in the set `ok`: a P2M call reads the weights of the list it carries, a
    direct call those of its leaves' particles, the other calls none -/
def readsOnly (ok : Nat → Prop) (po po' : Nat → List Nat) : Call → Prop
  | .p2m _ parts => ∀ p ∈ parts, ok p
  | .p2p src tgt _ => (∀ p ∈ po src, ok p) ∧ ∀ p ∈ po tgt, ok p
  | .p2pTsm src _ _ => ∀ p ∈ po' src, ok p
  | .p2pInner leaf => ∀ p ∈ po leaf, ok p
  | _ => True

/-- `readsOnly` for one elementary interaction, which names the leaf of a P2M call, not the list it carries -/
def elemOk (ok : Nat → Prop) (po po' : Nat → List Nat) : Elem → Prop
  | .p2m leaf _ => ∀ p ∈ po' leaf, ok p
  | .p2p src tgt _ => (∀ p ∈ po src, ok p) ∧ ∀ p ∈ po tgt, ok p
  | .p2pTsm src _ _ => ∀ p ∈ po' src, ok p
  | .p2pInner leaf => ∀ p ∈ po leaf, ok p
  | _ => True

section
variable {ok : Nat → Prop} (L : Nat) (po po' : Nat → List Nat) {w w1 w2 : Nat → Nat} {a b : Nat}
  (hw : ∀ p, ok p → w p = a * w1 p + b * w2 p)
include hw

theorem sumW_lin (ps : List Nat) (hps : ∀ p ∈ ps, ok p) : sumW w ps = a * sumW w1 ps + b * sumW w2 ps := by
  simp only [sumW_eq_sumOver]
  exact sumOver_lin (fun p hp => hw p (hps p hp))

variable {s s1 s2 : State} (h : Lin3 a b s s1 s2)
include h

omit hw in
theorem cL_lin (lv i : Nat) (e : Elem) : cL s lv i e = a * cL s1 lv i e + b * cL s2 lv i e := by
  cases e with
  | m2l level t src _ => simp only [cL]; split; exact h.m _ _; rfl
  | l2l level p c _ => simp only [cL]; split; exact h.l _ _; rfl
  | _ => rfl

theorem cM_lin (lv i : Nat) (e : Elem) (he : elemOk ok po po' e) :
    cM w L po' s lv i e = a * cM w1 L po' s1 lv i e + b * cM w2 L po' s2 lv i e := by
  cases e with
  | p2m leaf _ => simp only [cM]; split; exact sumW_lin hw _ he; rfl
  | m2m level p c _ => simp only [cM]; split; exact h.m _ _; rfl
  | _ => rfl

theorem cR_lin (p' : Nat) (e : Elem) (he : elemOk ok po po' e) :
    cR w L po po' s p' e = a * cR w1 L po po' s1 p' e + b * cR w2 L po po' s2 p' e := by
  cases e with
  | l2p leaf _ => exact lin_mul _ (h.l _ _)
  | p2p src tgt _ => exact lin_add (lin_mul _ (sumW_lin hw _ he.1)) (lin_mul _ (sumW_lin hw _ he.2))
  | p2pTsm src tgt _ => exact lin_mul _ (sumW_lin hw _ he)
  | p2pInner leaf =>
    simp only [cR]
    by_cases hq : p' ∈ po leaf
    · rw [sumW_sub_mem w hq, sumW_sub_mem w1 hq, sumW_sub_mem w2 hq]
      exact lin_mul _ (sumW_lin hw _ (fun p hp => he p (List.mem_of_mem_erase hp)))
    · simp [List.count_eq_zero_of_not_mem hq]
  | _ => rfl

theorem applyCall_lin_of_wf (c : Call) (hc : callWf po po' c) (hok : ∀ e ∈ elemsOfCall c, elemOk ok po po' e) :
    Lin3 a b (applyCall w L po po' s c) (applyCall w1 L po po' s1 c) (applyCall w2 L po po' s2 c) := by
  obtain ⟨e1, e2, e3⟩ := applyCall_effect w L po po' c hc s
  obtain ⟨f1, f2, f3⟩ := applyCall_effect w1 L po po' c hc s1
  obtain ⟨g1, g2, g3⟩ := applyCall_effect w2 L po po' c hc s2
  refine ⟨fun lv i => ?_, fun lv i => ?_, fun p => ?_⟩
  · rw [e1, f1, g1]
    exact lin_add (h.m lv i) (sumOver_lin (fun e he => cM_lin L po po' hw h lv i e (hok e he)))
  · rw [e2, f2, g2]
    exact lin_add (h.l lv i) (sumOver_lin (fun e _ => cL_lin h lv i e))
  · rw [e3, f3, g3]
    exact lin_add (h.r p) (sumOver_lin (fun e he => cR_lin L po po' hw h p e (hok e he)))

/-- a call that reads weights of particles in `ok` only is linear in weights that are linear on `ok` and in the state
    (`callWf` is not needed: a P2M or L2P call does not consult the lookup, take the lookup that returns the list it carries) -/
theorem applyCall_lin (c : Call) (hc : readsOnly ok po po' c) :
    Lin3 a b (applyCall w L po po' s c) (applyCall w1 L po po' s1 c) (applyCall w2 L po po' s2 c) := by
  cases c with
  | p2m leaf parts => exact applyCall_lin_of_wf L po (fun _ => parts) hw h (.p2m leaf parts) rfl (List.forall_mem_singleton.2 hc)
  | l2p leaf parts => exact applyCall_lin_of_wf L (fun _ => parts) po' hw h (.l2p leaf parts) rfl (List.forall_mem_singleton.2 trivial)
  | m2m _ _ _ | m2l _ _ _ | l2l _ _ _ => exact applyCall_lin_of_wf L po po' hw h _ trivial (List.forall_mem_map.2 fun _ _ => trivial)
  | p2p _ _ _ | p2pTsm _ _ _ | p2pInner _ => exact applyCall_lin_of_wf L po po' hw h _ trivial (List.forall_mem_singleton.2 hc)

end

theorem applyCalls_lin_reads {ok : Nat → Prop} (L : Nat) (po po' : Nat → List Nat) {w w1 w2 : Nat → Nat} {a b : Nat}
    (hw : ∀ p, ok p → w p = a * w1 p + b * w2 p) (cs : List Call) (hcs : ∀ c ∈ cs, readsOnly ok po po' c)
    {s s1 s2 : State} (h : Lin3 a b s s1 s2) :
    Lin3 a b (applyCalls w L po po' s cs) (applyCalls w1 L po po' s1 cs) (applyCalls w2 L po po' s2 cs) := by
  induction cs generalizing s s1 s2 with
  | nil => exact h
  | cons c cs ih =>
    simp only [applyCalls, List.foldl_cons]
    exact ih (fun c' hc' => hcs c' (List.mem_cons_of_mem _ hc')) (applyCall_lin L po po' hw h c (hcs c List.mem_cons_self))

theorem lin3_empty (a b : Nat) : Lin3 a b ({} : State) {} {} :=
  ⟨fun l i => by simp [empty_m], fun l i => by simp [empty_l], fun p => by simp [empty_r]⟩

def restrictW (N : Nat) (w : Nat → Nat) : Nat → Nat := fun p => if p < N then w p else 0

theorem readsOnly_true (po po' : Nat → List Nat) (c : Call) : readsOnly (fun _ => True) po po' c := by
  cases c <;> simp [readsOnly]

/-- decomposition of the result for a weight supported on `0 … n-1` into indicator runs -/
theorem result_decomp (L : Nat) (po po' : Nat → List Nat) (cs : List Call) (w : Nat → Nat) (p n : Nat) :
    (applyCalls (restrictW n w) L po po' {} cs).r p =
      sumOver (List.range n) (fun q => w q * (applyCalls (wq q) L po po' {} cs).r p) := by
  have lin : ∀ w0 w1 w2 a b, (∀ q, w0 q = a * w1 q + b * w2 q) →
      (applyCalls w0 L po po' {} cs).r p = a * (applyCalls w1 L po po' {} cs).r p + b * (applyCalls w2 L po po' {} cs).r p :=
    fun w0 w1 w2 a b hw => (applyCalls_lin_reads (ok := fun _ => True) L po po' (fun q _ => hw q) cs
      (fun c _ => readsOnly_true po po' c) (lin3_empty a b)).r p
  induction n with
  -- zero weights give zero results: linearity with `a = b = 0`
  | zero => rw [lin (restrictW 0 w) (wq 0) (wq 0) 0 0 (fun q => by simp [restrictW])]; simp [sumOver]
  | succ n ih =>
    have hw : ∀ q, restrictW (n+1) w q = 1 * restrictW n w q + w n * wq n q := by
      intro q
      simp only [restrictW, wq]
      rcases Nat.lt_trichotomy q n with h | h | h
      · rw [if_pos (Nat.lt_succ_of_lt h), if_pos h, if_neg (Nat.ne_of_lt h)]; simp
      · rw [if_pos (h ▸ Nat.lt_succ_self q), if_neg (h ▸ Nat.lt_irrefl q), if_pos h, h]; simp
      · rw [if_neg (Nat.not_lt.2 h), if_neg (Nat.lt_asymm h), if_neg (Nat.ne_of_gt h)]; simp
    rw [lin _ _ _ _ _ hw, ih, List.range_succ, sumOver_append, sumOver_cons, sumOver_nil, Nat.one_mul, Nat.add_zero]

theorem result_restrict_reads (L : Nat) (po po' : Nat → List Nat) (cs : List Call) (w : Nat → Nat) (N : Nat)
    (hcs : ∀ c ∈ cs, readsOnly (· < N) po po' c) (p : Nat) :
    (applyCalls w L po po' {} cs).r p = (applyCalls (restrictW N w) L po po' {} cs).r p := by
  have h := applyCalls_lin_reads (w := w) (w1 := restrictW N w) (w2 := restrictW N w) L po po' (by intro q hq; simp [restrictW, hq])
    cs hcs (lin3_empty 1 0)
  rw [h.r]; simp

/-- a run with any weights is the sum of the indicator runs, when the calls read the weights of the particles `0 … N-1` only -/
theorem result_decomp_reads (L : Nat) (po po' : Nat → List Nat) (cs : List Call) (w : Nat → Nat) (N : Nat)
    (hcs : ∀ c ∈ cs, readsOnly (· < N) po po' c) (p : Nat) :
    (applyCalls w L po po' {} cs).r p = sumOver (List.range N) (fun q => w q * (applyCalls (wq q) L po po' {} cs).r p) := by
  -- `w` may be cut off at `N`, and what is cut off is a sum of indicators
  rw [result_restrict_reads L po po' cs w N hcs p, result_decomp]

/-! The same with the side condition `callOk` (every particle id a P2M or L2P call carries is in the set, and so is every
particle the lookups return): it implies `readsOnly`.  Nothing outside this file uses what follows. -/

/-- the particle ids a call mentions are all in the set `ok` -/
def callOk (ok : Nat → Prop) : Call → Prop
  | .p2m _ parts => ∀ p ∈ parts, ok p
  | .l2p _ parts => ∀ p ∈ parts, ok p
  | _ => True

theorem readsOnly_of_callOk {ok : Nat → Prop} {po po' : Nat → List Nat} (hpo : ∀ i, ∀ p ∈ po i, ok p) (hpo' : ∀ i, ∀ p ∈ po' i, ok p)
    {c : Call} (hc : callOk ok c) : readsOnly ok po po' c := by
  cases c with
  | p2m _ _ => exact hc
  | p2p src tgt _ => exact ⟨hpo src, hpo tgt⟩
  | p2pTsm src _ _ => exact hpo' src
  | p2pInner leaf => exact hpo leaf
  | _ => trivial

section
variable (ok : Nat → Prop) (L : Nat) (po po' : Nat → List Nat) (w w1 w2 : Nat → Nat) (a b : Nat)
  (hw : ∀ p, ok p → w p = a * w1 p + b * w2 p) (hpo : ∀ i, ∀ p ∈ po i, ok p) (hpo' : ∀ i, ∀ p ∈ po' i, ok p)
include hw hpo hpo'

theorem applyCalls_lin (cs : List Call) (hcs : ∀ c ∈ cs, callOk ok c) (s s1 s2 : State) (h : Lin3 a b s s1 s2) :
    Lin3 a b (applyCalls w L po po' s cs) (applyCalls w1 L po po' s1 cs) (applyCalls w2 L po po' s2 cs) :=
  applyCalls_lin_reads L po po' hw cs (fun c hc => readsOnly_of_callOk hpo hpo' (hcs c hc)) h

end

/-- a weight function may be replaced by its restriction to the particles that occur -/
theorem result_restrict (L : Nat) (po po' : Nat → List Nat) (cs : List Call) (w : Nat → Nat) (N : Nat)
    (hpo : ∀ i, ∀ p ∈ po i, p < N) (hpo' : ∀ i, ∀ p ∈ po' i, p < N) (hcs : ∀ c ∈ cs, callOk (· < N) c) (p : Nat) :
    (applyCalls w L po po' {} cs).r p = (applyCalls (restrictW N w) L po po' {} cs).r p :=
  result_restrict_reads L po po' cs w N (fun c hc => readsOnly_of_callOk hpo hpo' (hcs c hc)) p

end Tbfmm
