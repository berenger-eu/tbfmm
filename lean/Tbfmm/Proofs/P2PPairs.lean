import Tbfmm.Proofs.M2LPairs
import Tbfmm.Proofs.Codes
/-! The direct-pair test sees only the offset of the source (or image) from the target, and the two orientations of a pair see
opposite offsets. -/
namespace Tbfmm

/-- 0/1 indicators because the value theorems sum this over images and pairs -/
theorem offset_once (D : Nat) (o : List Int) (ho : o.length = D) :
    (if o.all (fun x => decide (x.natAbs ≤ 1)) then 0 else 1) +
      (if o.all (fun x => decide (x.natAbs ≤ 1)) && !o.all (· == 0) && decide ((3^D)/2 < code3 o) then 1 else 0) +
      (if (o.map (- ·)).all (fun x => decide (x.natAbs ≤ 1)) && !(o.map (- ·)).all (· == 0) &&
        decide ((3^D)/2 < code3 (o.map (- ·))) then 1 else 0) =
      if o.all (· == 0) then 0 else 1 := by
  rw [all_natAbs_neg, all_zero_neg]
  cases hz : o.all (· == 0)
  · cases hn : o.all (fun x => decide (x.natAbs ≤ 1))
    · rfl      -- not near: 1 + 0 + 0
    · -- near and non-zero: 0, plus exactly one of `o`, `-o` in the upper half
      have hr : ∀ x ∈ o, -1 ≤ x ∧ x ≤ 1 := by
        intro x hx
        have := List.all_eq_true.1 hn x hx
        simp only [decide_eq_true_eq] at this
        omega
      have hnz : o ≠ List.replicate D 0 := by
        rintro rfl
        simp at hz
      have flip := upper_half_flip D o ho hr hnz
      by_cases h : (3^D)/2 < code3 o
      · simp [h, flip.1 h]
      · simp [h, Decidable.not_not.1 (fun h' => h (flip.2 h'))]
  · -- the zero offset: 0 + 0 + 0
    have hn : o.all (fun x => decide (x.natAbs ≤ 1)) = true := by
      refine List.all_eq_true.2 (fun x hx => ?_)
      have := List.all_eq_true.1 hz x hx
      simp only [beq_iff_eq] at this
      simp [this]
    simp [hn]

section
variable (D L : Nat) (a b : Nat)

/-- per image: not adjacent (then one transfer serves it), or adjacent and served by the direct pass in exactly one
    orientation, or the leaf itself -/
theorem image_once (k : List Int) (hk : k.length = D) :
    (if adjV (toI (decode D L a)) (vadd (toI (decode D L b)) k) then 0 else 1) +
      (if perP2PTest D L a b k then 1 else 0) + (if perP2PTest D L b a (k.map (- ·)) then 1 else 0) =
      if vadd (toI (decode D L b)) k = toI (decode D L a) then 0 else 1 := by
  have hl : (toI (decode D L a)).length = (vadd (toI (decode D L b)) k).length := by simp [hk]
  have hz : vadd (toI (decode D L b)) k = toI (decode D L a) ↔
      (vsub (vadd (toI (decode D L b)) k) (toI (decode D L a))).all (· == 0) = true := (vsub_all_zero _ _ hl.symm).symm
  unfold perP2PTest
  rw [vsub_vadd_neg, adjV_eq_all hl]
  simp only [hz]
  exact offset_once D _ (by simp [hk])

end

/-- **C10, near images**: `a` and the `k`-image of `b` adjacent and distinct ⇒ the direct-pair specification accepts exactly
    one of the orientations `(a ← b + k)`, `(b ← a - k)` -/
theorem C10_periodic_near_once (D L : Nat) (a b : Nat) (k : List Int) (hk : k.length = D)
    (hadj : adjV (toI (decode D L a)) (vadd (toI (decode D L b)) k) = true)
    (hne : vadd (toI (decode D L b)) k ≠ toI (decode D L a)) :
    perP2PTest D L a b k = true ↔ perP2PTest D L b a (k.map (- ·)) = false := by
  have h := image_once D L a b k hk
  rw [if_pos hadj, if_neg hne] at h
  cases h1 : perP2PTest D L a b k <;> cases h2 : perP2PTest D L b a (k.map (- ·)) <;> simp [h1, h2] at h ⊢

/-- **C01, near pairs**: two distinct adjacent occupied leaves are in the direct pass in exactly one orientation (the
    mutual operator serves both directions) -/
theorem C01_near_pair_once (D L : Nat) (leaves : List Nat) (a b : Nat) (ha : a ∈ leaves) (hb : b ∈ leaves)
    (hba : a < 2^(D*L)) (hbb : b < 2^(D*L)) (hne : a ≠ b) (hadj : Far.adj (decode D L a) (decode D L b)) :
    (∃ c, Elem.p2p b a c ∈ specP2P D false L leaves) ↔ ¬ (∃ c, Elem.p2p a b c ∈ specP2P D false L leaves) := by
  have once := C10_periodic_near_once D L a b (List.replicate D 0) List.length_replicate
    (by rw [vadd_decode_zero]; exact (adjV_toI _ _).2 hadj)
    (by rw [vadd_decode_zero, Ne, toI_decode_inj D L hbb hba]; exact hne.symm)
  simpa [exists_p2p_np, ha, hb] using once

/-- **C01, far pairs are not in the direct pass** -/
theorem C01_far_pair_no_p2p (D L : Nat) (leaves : List Nat) (a b : Nat)
    (hna : ¬ Far.adj (decode D L a) (decode D L b)) (c : Nat) : Elem.p2p b a c ∉ specP2P D false L leaves := by
  intro h
  rw [mem_specP2P_np] at h
  apply hna
  rw [← adjV_toI, adjV_eq_all (by simp)]
  exact h.2.2.1

/-- no leaf is paired with itself in the direct pass (the inner operator handles it) -/
theorem C01_no_self_p2p (D L : Nat) (leaves : List Nat) (a c : Nat) : Elem.p2p a a c ∉ specP2P D false L leaves := by
  intro h
  rw [mem_specP2P_np] at h
  have := (vsub_all_zero (toI (decode D L a)) (toI (decode D L a)) rfl).2 rfl
  rw [this] at h
  exact Bool.noConfusion h.2.2.2.1

/-- **C09, near pairs**: an adjacent or equal target and source leaf are served by one one-sided direct interaction
    (present exactly once) and by no transfer -/
theorem C09_near_pair (D L : Nat) (leavesT leavesS : List Nat) (hT : leavesT.Nodup) (hS : leavesS.Nodup)
    (a b : Nat) (ha : a ∈ leavesT) (hb : b ∈ leavesS) (hadj : Far.adj (decode D L a) (decode D L b)) :
    (∃ c, Elem.p2pTsm b a c ∈ specP2PTsm D false L leavesT leavesS) ∧ (specP2PTsm D false L leavesT leavesS).Nodup ∧
    ∀ k, k + 2 ≤ L → ¬ ∃ c, Elem.m2l (L-k) (a / 2^(D*k)) (b / 2^(D*k)) c ∈
        specM2LLevel D false (L-k) (specCells D L leavesT (L-k)) (specCells D L leavesS (L-k)) :=
  ⟨⟨_, mem_specP2PTsm_np.2 ⟨ha, hb, hadj, rfl⟩⟩, specP2PTsm_np_nodup D L _ _ hT hS,
    near_pair_none D L leavesT leavesS a b ha hb hadj⟩

/-- **C09, far pairs**: a non-adjacent target and source leaf are served by a transfer between their ancestors at exactly
    one level and by no direct interaction -/
theorem C09_far_pair (D L : Nat) (leavesT leavesS : List Nat) (a b : Nat) (ha : a ∈ leavesT) (hb : b ∈ leavesS)
    (hna : ¬ Far.adj (decode D L a) (decode D L b)) :
    (∃ k, (k + 2 ≤ L ∧ ∃ c, Elem.m2l (L-k) (a / 2^(D*k)) (b / 2^(D*k)) c ∈
        specM2LLevel D false (L-k) (specCells D L leavesT (L-k)) (specCells D L leavesS (L-k))) ∧
      ∀ k', k' + 2 ≤ L → (∃ c, Elem.m2l (L-k') (a / 2^(D*k')) (b / 2^(D*k')) c ∈
        specM2LLevel D false (L-k') (specCells D L leavesT (L-k')) (specCells D L leavesS (L-k'))) → k' = k) ∧
    ∀ c, Elem.p2pTsm b a c ∉ specP2PTsm D false L leavesT leavesS :=
  ⟨far_pair_once D L leavesT leavesS a b ha hb hna, fun _ h => hna (adj_of_mem_specP2PTsm_np h)⟩

end Tbfmm
