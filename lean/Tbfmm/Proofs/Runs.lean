import Tbfmm.Spec.Runs
import Tbfmm.Proofs.SpecCells
import Tbfmm.Proofs.ListLemmas
namespace Tbfmm

theorem getLast?_eq_lastD (l : List Nat) (h : l ≠ []) : l.getLast? = some (lastD l) := by
  induction l with
  | nil => exact absurd rfl h
  | cons a l ih =>
    cases l with
    | nil => rfl
    | cons b l => rw [List.getLast?_cons_cons, lastD]; exact ih (List.cons_ne_nil _ _)

theorem lastD_mem (l : List Nat) (h : l ≠ []) : lastD l ∈ l :=
  List.mem_of_getLast? (getLast?_eq_lastD l h)

theorem lastOf_mem (g : Group) (h : g ≠ []) : lastOf g ∈ g := lastD_mem g h

theorem firstOf_mem (g : Group) (h : g ≠ []) : firstOf g ∈ g := by
  cases g with
  | nil => exact absurd rfl h
  | cons a l => exact List.mem_cons_self

theorem le_lastD_of_mono (f : Nat → Nat) (l : List Nat) (hs : l.Pairwise (fun a b => f a ≤ f b)) :
    ∀ x ∈ l, f x ≤ f (lastD l) := by
  intro x hx
  obtain ⟨ini, e⟩ := List.getLast?_eq_some_iff.mp (getLast?_eq_lastD l (List.ne_nil_of_mem hx))
  rw [e] at hx hs
  rcases List.mem_append.mp hx with h | h
  · exact (List.pairwise_append.mp hs).2.2 x h _ List.mem_cons_self
  · rw [List.mem_singleton.mp h]; exact Nat.le_refl _

theorem sorted_first_last (g : Group) (hs : g.Pairwise (· < ·)) : ∀ x ∈ g, firstOf g ≤ x ∧ x ≤ lastOf g := by
  intro x hx
  have hle : g.Pairwise (· ≤ ·) := hs.imp Nat.le_of_lt
  refine ⟨?_, le_lastD_of_mono (fun u => u) g hle x hx⟩
  cases g with
  | nil => exact nomatch hx
  | cons a l => exact head_le_of_mono (fun u => u) a l hle x hx

/-- the groups of one level of a tree: none is empty, and the cells increase strictly through all of them -/
structure GroupsInv (gs : List Group) : Prop where
  ne : ∀ g ∈ gs, g ≠ []
  sorted : gs.flatten.Pairwise (· < ·)

theorem GroupsInv.bounds_of_mem {gs : List Group} (inv : GroupsInv gs) {i j : Nat} (hij : i ≤ j) (hj : j < gs.length) {s : Nat}
    (hs : s ∈ gs.getD j []) : firstOf (gs.getD i []) ≤ s ∧ (i < j → lastOf (gs.getD i []) < s) ∧ s ≤ lastOf (gs.getD j []) := by
  obtain ⟨hin, hcross⟩ := List.pairwise_flatten.mp inv.sorted
  have hne := inv.ne _ (getD_mem gs [] (Nat.lt_of_le_of_lt hij hj))
  have hb := sorted_first_last _ (hin _ (getD_mem gs [] hj)) s hs
  have hlt : i < j → ∀ a ∈ gs.getD i [], a < s := fun h a ha => hcross.getD [] h hj a ha s hs
  refine ⟨?_, fun h => hlt h _ (lastOf_mem _ hne), hb.2⟩
  rcases Nat.lt_or_eq_of_le hij with h | rfl
  · exact Nat.le_of_lt (hlt h _ (firstOf_mem _ hne))
  · exact hb.1

theorem GroupsInv.mem_of_range {gs : List Group} (inv : GroupsInv gs) {g : Group} (hg : g ∈ gs) {x : Nat}
    (hx : x ∈ gs.flatten) (h1 : firstOf g ≤ x) (h2 : x ≤ lastOf g) : x ∈ g := by
  obtain ⟨A, B, rfl⟩ := List.append_of_mem hg
  have hne := inv.ne g hg
  have hs := inv.sorted
  simp only [List.flatten_append, List.flatten_cons, List.mem_append] at hx hs
  obtain ⟨-, hs, hA⟩ := List.pairwise_append.mp hs
  rcases hx with hx | hx | hx
  · have := hA x hx (firstOf g) (List.mem_append_left _ (firstOf_mem g hne)); omega
  · exact hx
  · have := (List.pairwise_append.mp hs).2.2 _ (lastOf_mem g hne) x hx; omega

variable (par : Nat → Nat)

theorem runsAux_ne_nil (cur : Run) (cs : List Nat) : runsAux par cur cs ≠ [] := by
  induction cs generalizing cur with
  | nil => simp [runsAux]
  | cons c cs ih =>
    obtain ⟨p, r⟩ := cur
    simp only [runsAux]; split
    · exact ih _
    · simp

theorem runsAux_getLast_key_nil (cur : Run) : ((runsAux par cur []).getLast (runsAux_ne_nil par cur [])) = cur := by
  simp [runsAux]

theorem keys_runsAux (p : Nat) (r cs : List Nat) : keys (runsAux par (p, r) cs) = dedupAdj (p :: cs.map par) := by
  induction cs generalizing p r with
  | nil => rfl
  | cons c cs ih =>
    rw [runsAux, List.map_cons, dedupAdj]
    by_cases h : par c = p
    · rw [if_pos h, if_pos h.symm, ih, h]
    · rw [if_neg h, if_neg (Ne.symm h)]
      exact congrArg (p :: ·) (ih (par c) [c])

theorem keys_runsOf (cs : List Nat) : keys (runsOf par cs) = dedupAdj (cs.map par) := by
  cases cs with
  | nil => rfl
  | cons c cs => exact keys_runsAux par (par c) [c] cs

theorem mem_keys_runsOf (cs : List Nat) (x : Nat) : x ∈ keys (runsOf par cs) ↔ ∃ c ∈ cs, par c = x := by
  rw [keys_runsOf, mem_dedupAdj, List.mem_map]

theorem keys_runsOf_sorted_iff (cs : List Nat) :
    (keys (runsOf par cs)).Pairwise (· < ·) ↔ cs.Pairwise (fun a b => par a ≤ par b) := by
  rw [keys_runsOf]
  exact ⟨fun h => List.pairwise_map.mp (sorted_of_dedupAdj_sorted _ h), fun h => dedupAdj_sorted _ (List.pairwise_map.mpr h)⟩

theorem keys_runsOf_sorted (cs : List Nat) (hmono : cs.Pairwise (fun a b => par a ≤ par b)) :
    (keys (runsOf par cs)).Pairwise (· < ·) :=
  (keys_runsOf_sorted_iff par cs).mpr hmono

end Tbfmm
