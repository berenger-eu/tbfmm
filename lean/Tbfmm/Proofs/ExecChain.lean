import Tbfmm.Model.Exec
import Tbfmm.Proofs.ListLemmas
namespace Tbfmm

theorem hasFlag_two_pow (x i : Nat) : hasFlag x (2 ^ i) = x.testBit i := by
  simp [hasFlag, Nat.testBit_eq_decide_div_mod_eq, Bool.beq_eq_decide_eq]

theorem hasFlag_and (a b i : Nat) : hasFlag (a &&& b) (2 ^ i) = (hasFlag a (2 ^ i) && hasFlag b (2 ^ i)) := by
  simp only [hasFlag_two_pow, Nat.testBit_and]

def runChain (flags : Nat) : List (Nat × List Call) → List Call
  | [] => []
  | st :: sts => (if hasFlag flags (2 ^ st.1) then st.2 else []) ++ runChain flags sts

theorem runChain_append (flags : Nat) (a b : List (Nat × List Call)) :
    runChain flags (a ++ b) = runChain flags a ++ runChain flags b := by
  induction a with
  | nil => rfl
  | cons st sts ih => simp only [List.cons_append, runChain, ih, List.append_assoc]

theorem runChain_and_on (flags m : Nat) (stages : List (Nat × List Call)) (h : ∀ st ∈ stages, m.testBit st.1 = true) :
    runChain (flags &&& m) stages = runChain flags stages := by
  induction stages with
  | nil => rfl
  | cons st sts ih =>
    rw [runChain, runChain, hasFlag_and, hasFlag_two_pow m, h st List.mem_cons_self, Bool.and_true,
      ih (fun s hs => h s (List.mem_cons_of_mem _ hs))]

theorem runChain_and_off (flags m : Nat) (stages : List (Nat × List Call)) (h : ∀ st ∈ stages, m.testBit st.1 = false) :
    runChain (flags &&& m) stages = [] := by
  induction stages with
  | nil => rfl
  | cons st sts ih =>
    rw [runChain, hasFlag_and, hasFlag_two_pow m, h st List.mem_cons_self, Bool.and_false,
      ih (fun s hs => h s (List.mem_cons_of_mem _ hs))]
    rfl

def IsCut (bits : List Nat) (k m m' : Nat) : Prop :=
  (∀ i ∈ bits.take k, m.testBit i = true ∧ m'.testBit i = false) ∧
  (∀ i ∈ bits.drop k, m.testBit i = false ∧ m'.testBit i = true)

instance (bits : List Nat) (k m m' : Nat) : Decidable (IsCut bits k m m') := inferInstanceAs (Decidable (_ ∧ _))

theorem runChain_cut (flags m m' : Nat) (stages : List (Nat × List Call)) (h : ∃ k, IsCut (stages.map (·.1)) k m m') :
    runChain flags stages = runChain (flags &&& m) stages ++ runChain (flags &&& m') stages := by
  obtain ⟨k, hpre, hsuf⟩ := h
  simp only [← List.map_take, ← List.map_drop, List.forall_mem_map] at hpre hsuf
  rw [← List.take_append_drop k stages, runChain_append, runChain_append, runChain_append,
    runChain_and_on flags m _ (fun s hs => (hpre s hs).1), runChain_and_off flags m' _ (fun s hs => (hpre s hs).2),
    runChain_and_off flags m _ (fun s hs => (hsuf s hs).1), runChain_and_on flags m' _ (fun s hs => (hsuf s hs).2),
    List.append_nil, List.nil_append]

theorem executeSeq_eq_chain (t : Tree) (periodic : Bool) (flags upper : Nat) :
    executeSeq t periodic flags upper = runChain flags
      [(1, p2mAll t upper), (2, m2mAll t upper), (3, m2lAll t periodic upper), (4, l2lAll t upper),
       (5, l2pAll t upper), (0, p2pAll t.D periodic t.H t.leafGroups)] := by
  simp only [executeSeq, runChain, List.append_assoc, List.append_nil]
  rfl

theorem executeOmp_eq_chain (t : Tree) (periodic : Bool) (flags upper : Nat) :
    executeOmp t periodic flags upper = runChain flags
      [(1, p2mAll t upper), (2, m2mAll t upper), (3, m2lAll t periodic upper), (4, l2lAll t upper),
       (0, p2pAll t.D periodic t.H t.leafGroups), (5, l2pAll t upper)] := by
  simp only [executeOmp, runChain, List.append_assoc, List.append_nil]
  rfl

/-- the transfer phase of the target/source executor, which `executeTsm` spells out inline -/
def m2lAllTsm (tS tT : Tree) (periodic : Bool) (upper : Nat) : List Call :=
  (m2lLevels tT.H upper).flatMap fun l => m2lLevelTsm tT.D periodic l (tT.level l) (tS.level l)

theorem executeTsm_eq_chain (tS tT : Tree) (periodic : Bool) (flags upper : Nat) (ompOrder : Bool) :
    executeTsm tS tT periodic flags upper ompOrder = runChain flags
      ([(1, p2mAll tS upper), (2, m2mAll tS upper), (3, m2lAllTsm tS tT periodic upper), (4, l2lAll tT upper)] ++
       if ompOrder then [(0, p2pAllTsm tT.D periodic tT.H tT.leafGroups tS.leafGroups), (5, l2pAll tT upper)]
       else [(5, l2pAll tT upper), (0, p2pAllTsm tT.D periodic tT.H tT.leafGroups tS.leafGroups)]) := by
  cases ompOrder <;>
    simp only [executeTsm, runChain, Bool.false_eq_true, ↓reduceIte, List.cons_append, List.nil_append, List.append_assoc,
      List.append_nil] <;> rfl

theorem executeSeq_all (t : Tree) (periodic : Bool) (upper : Nat) :
    executeSeq t periodic 63 upper = (p2mAll t upper ++ m2mAll t upper ++ m2lAll t periodic upper ++ l2lAll t upper) ++
      (l2pAll t upper ++ p2pAll t.D periodic t.H t.leafGroups) := by
  rw [← List.append_assoc]; rfl

theorem executeOmp_all (t : Tree) (periodic : Bool) (upper : Nat) :
    executeOmp t periodic 63 upper = (p2mAll t upper ++ m2mAll t upper ++ m2lAll t periodic upper ++ l2lAll t upper) ++
      (p2pAll t.D periodic t.H t.leafGroups ++ l2pAll t upper) := by
  rw [← List.append_assoc]; rfl

theorem executeTsm_all (tS tT : Tree) (periodic : Bool) (upper : Nat) (ompOrder : Bool) :
    executeTsm tS tT periodic 63 upper ompOrder = (p2mAll tS upper ++ m2mAll tS upper ++ m2lAllTsm tS tT periodic upper ++ l2lAll tT upper) ++
      (if ompOrder then p2pAllTsm tT.D periodic tT.H tT.leafGroups tS.leafGroups ++ l2pAll tT upper
        else l2pAll tT upper ++ p2pAllTsm tT.D periodic tT.H tT.leafGroups tS.leafGroups) := rfl

theorem mem_midLevels {H upper l : Nat} : l ∈ midLevels H upper ↔ upper ≤ l ∧ l + 1 < H := by
  simp only [midLevels, List.mem_filter, List.mem_range, decide_eq_true_eq]; omega

theorem mem_m2lLevels {H upper l : Nat} : l ∈ m2lLevels H upper ↔ upper ≤ l ∧ l < H := by
  simp only [m2lLevels, List.mem_filter, List.mem_range, decide_eq_true_eq]; omega

theorem midLevels_eq (H upper : Nat) : midLevels H upper = List.range' upper (H - 1 - upper) := by
  unfold midLevels; exact range_filter_ge _ _

theorem m2lLevels_eq (H upper : Nat) : m2lLevels H upper = List.range' upper (H - upper) := by
  unfold m2lLevels; exact range_filter_ge _ _

end Tbfmm
