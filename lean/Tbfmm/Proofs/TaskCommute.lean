import Tbfmm.Proofs.Sched
/-! C03: tasks whose *declared* accesses (the buffer handles of a `depend` clause) do not conflict commute, provided these
cover the actual ones.  An update is additive: `s[w] += val s`, `val` reading only `reads`. -/
namespace Tbfmm.Tasks

variable {Slot Handle : Type} [DecidableEq Slot]

abbrev St (Slot : Type) := Slot → Nat

structure Upd (Slot : Type) where
  w : Slot
  reads : List Slot
  val : St Slot → Nat
  val_dep : ∀ s s' : St Slot, (∀ r ∈ reads, s r = s' r) → val s = val s'

def Upd.apply (u : Upd Slot) (s : St Slot) : St Slot := fun k => s k + (if k = u.w then u.val s else 0)

theorem Upd.val_apply (u v : Upd Slot) (h : v.w ∉ u.reads) (s : St Slot) : u.val (v.apply s) = u.val s :=
  u.val_dep _ _ fun r hr => by
    have : r ≠ v.w := fun e => h (e ▸ hr)
    simp [Upd.apply, this]

/-- two additive updates commute when neither writes a slot the other reads (writing the same slot is fine) -/
theorem upd_commute (u1 u2 : Upd Slot) (h12 : u1.w ∉ u2.reads) (h21 : u2.w ∉ u1.reads) (s : St Slot) :
    u2.apply (u1.apply s) = u1.apply (u2.apply s) := by
  funext k
  simp only [Upd.apply, Upd.val_apply u2 u1 h12, Upd.val_apply u1 u2 h21]
  exact Nat.add_right_comm _ _ _

structure Task (Slot Handle : Type) where
  reads : List Handle          -- depend(in: …)
  commutes : List Handle       -- depend(commute: …)
  upds : List (Upd Slot)       -- what the wrapper call(s) of the task do, in order

def Task.run (t : Task Slot Handle) (s : St Slot) : St Slot := t.upds.foldl (fun s u => u.apply s) s

theorem Task.run_eq_exec (t : Task Slot Handle) (s : St Slot) : t.run s = exec (fun (u : Upd Slot) s => u.apply s) t.upds s := rfl

def Task.covered (handleOf : Slot → Handle) (t : Task Slot Handle) : Prop :=
  ∀ u ∈ t.upds, handleOf u.w ∈ t.commutes ∧ ∀ r ∈ u.reads, handleOf r ∈ t.reads

/-- `commute` as `mutexinoutset`: writers of the same buffer are mutually exclusive but unordered -/
def depMutex (a b : Task Slot Handle) : Prop :=
  ∃ h, (h ∈ a.commutes ∧ h ∈ b.reads) ∨ (h ∈ a.reads ∧ h ∈ b.commutes)

/-- `commute` mapped to `inout` (OpenMP < 5.0): writers of the same buffer are ordered too -/
def depInout (a b : Task Slot Handle) : Prop :=
  depMutex a b ∨ ∃ h, h ∈ a.commutes ∧ h ∈ b.commutes

theorem tasks_commute_of_slots (a b : Task Slot Handle)
    (h : ∀ u ∈ a.upds, ∀ v ∈ b.upds, u.w ∉ v.reads ∧ v.w ∉ u.reads) (s : St Slot) :
    a.run (b.run s) = b.run (a.run s) := by
  -- every update of `b` commutes with every update of `a`, hence with `a.run`; so `b.run` does
  have hv : ∀ v ∈ b.upds, ∀ s, a.run (v.apply s) = v.apply (a.run s) := fun v hv s => by
    rw [Task.run_eq_exec, Task.run_eq_exec]
    exact (exec_comm _ v.apply a.upds (fun u hu s => upd_commute u v (h u hu v hv).1 (h u hu v hv).2 s) s).symm
  rw [Task.run_eq_exec b, Task.run_eq_exec b]
  exact exec_comm _ a.run b.upds hv s

/-- two tasks whose declared accesses cover the actual ones commute when no buffer is written by one and read by the
    other -/
theorem tasks_commute (handleOf : Slot → Handle) (a b : Task Slot Handle)
    (ca : a.covered handleOf) (cb : b.covered handleOf) (hind : ¬ depMutex b a) (s : St Slot) :
    a.run (b.run s) = b.run (a.run s) := by
  apply tasks_commute_of_slots
  intro u hu v hv
  constructor
  · intro hr
    apply hind
    exact ⟨handleOf u.w, Or.inr ⟨(cb v hv).2 _ hr, (ca u hu).1⟩⟩
  · intro hr
    apply hind
    exact ⟨handleOf v.w, Or.inl ⟨(cb v hv).1, (ca u hu).2 _ hr⟩⟩

/-- **C03 (model level)**: with declared accesses covering the actual ones, every schedule that respects the declared
    dependences (`mutexinoutset`, the weakest a conforming runtime may apply) leaves the state of submission order -/
theorem C03_legal_schedule_eq (handleOf : Slot → Handle) (sub sched : List (Task Slot Handle))
    (hc : ∀ t ∈ sub, t.covered handleOf) (hl : Tbfmm.Legal depMutex sub sched) (s : St Slot) :
    Tbfmm.exec (fun t s => Task.run t s) sched s = Tbfmm.exec (fun t s => Task.run t s) sub s :=
  legal_exec_eq_on _ depMutex hl (fun a ha b hb hd s => tasks_commute handleOf a b (hc a ha) (hc b hb) hd s) s

/-- the `inout` mapping used with gcc 12 orders at least as much as `mutexinoutset`: its legal schedules are covered too -/
theorem depMutex_sub_depInout (a b : Task Slot Handle) : depMutex a b → depInout a b := Or.inl

end Tbfmm.Tasks
