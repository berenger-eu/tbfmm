import Tbfmm.Proofs.SpecPairs
import Tbfmm.Proofs.InterElem
/-! `nlistCell` with the upper-half exclusion against the specification's direct pairs of a target leaf; target/source mode: no
exclusion, plus the self entry. -/
namespace Tbfmm

theorem nlist_wrap_eq (periodic : Bool) (L x : Int) (h : periodic = false → 0 ≤ x ∧ x < L) :
    (if periodic then (x + L) % L else x) = x % L := by
  cases periodic
  · exact (Int.emod_eq_of_lt (h rfl).1 (h rfl).2).symm
  · exact Int.add_emod_right x L

section
variable (D : Nat) (periodic : Bool) (l : Nat)

theorem nlistCell_eq (t : Nat) (ue : Bool) :
    nlistCell D periodic l t 0 ue = (nbrs periodic (2^l) (toI (decode D l t))).filterMap fun q =>
      if (vsub q (toI (decode D l t))).all (· == 0) then none else
      if !ue || (3^D)/2 < code3 (vsub q (toI (decode D l t))) then
        some { tgt := t, src := cellOf D l q, tpos := 0, code := code3 (vsub q (toI (decode D l t))) } else none := by
  unfold nlistCell nbrs
  rw [List.filterMap_map]
  apply filterMap_congr_left
  intro off ho
  have hq := nbrs_bounds (toI_decode_bounds D l t) _ (List.mem_map_of_mem ho)
  simp only [Function.comp]
  rw [vsub_vadd_cancel _ off (by simpa using (mem_odometer.1 ho).1.symm),
    cellOf_of_wrap D l _ _ fun x hx => nlist_wrap_eq periodic _ x (hq.2 x hx).2]

/-- the specification's inner body for direct pairs -/
def specPInner (t : Nat) (tp : List Int) (s : Nat) (k : List Int) : Option Elem :=
  let off := vsub (vadd (toI (decode D l s)) k) tp
  if off.all (fun o => o.natAbs ≤ 1) && !off.all (· == 0) && (3^D)/2 < code3 off then some (Elem.p2p s t (code3 off)) else none

theorem specPInner_eq (t s : Nat) (k : List Int) :
    specPInner D l t (toI (decode D l t)) s k = if perP2PTest D l t s k then
      some (Elem.p2p s t (code3 (vsub (vadd (toI (decode D l s)) k) (toI (decode D l t))))) else none := rfl

variable {D l} in
theorem specPInner_near {t s : Nat} {tp k : List Int} (h : (specPInner D l t tp s k).isSome) :
    (vsub (vadd (toI (decode D l s)) k) tp).all (fun o => decide (o.natAbs ≤ 1)) = true := by
  rw [specPInner] at h
  split at h
  · next hacc => exact (Bool.and_eq_true_iff.1 (Bool.and_eq_true_iff.1 hacc).1).1
  · exact nomatch h

end

/-- **characterisation of `getNeighborListForIndex`** (one target leaf) -/
theorem nlist_target_perm (D : Nat) (periodic : Bool) (l : Nat) (t : Nat) (srcs : List Nat)
    (hs : ∀ s ∈ srcs, s < 2^(D*l)) (hnd : srcs.Nodup) :
    (((nlistCell D periodic l t 0 true).filter fun x => srcs.contains x.src).map elemP2P).Perm
      (srcs.flatMap fun s => ((imageShifts D periodic).map fun k => k.map (· * (2:Int)^l)).filterMap fun k =>
        specPInner D l t (toI (decode D l t)) s k) := by
  have htp := toI_decode_bounds D l t
  have hl : (toI (decode D l t)).length = D := by simp
  -- both sides as one `filterMap`: over the positions visited, over the images of a source (`images_perm`)
  rw [nlistCell_eq, List.filter_filterMap, List.map_filterMap]
  simp only [List.filterMap_map, Function.comp_def]
  refine (List.Perm.of_eq (filterMap_congr_left fun q hq => ?_)).trans (images_perm hl htp srcs hs hnd
    (fun s m => specPInner D l t (toI (decode D l t)) s (m.map (· * (2:Int)^l))) fun _ _ => specPInner_near)
  -- a visited position is the image `upI l q` of its cell, and the specification's near test holds there; what is left on
  -- both sides is the presence test and the tests "zero offset" `z` and "upper half" `u`, nested differently
  simp only [specPInner, ← virt_def, virt_cellOf D l q ((nbrs_bounds htp q hq).1.trans hl), nbrs_all_near htp q hq]
  generalize (vsub q (toI (decode D l t))).all (· == 0) = z
  generalize decide ((3^D)/2 < code3 (vsub q (toI (decode D l t)))) = u
  cases z <;> cases u <;> simp [elemP2P, Option.filter_some, apply_ite (Option.map _)]

theorem specP2P_by_target (D : Nat) (periodic : Bool) (l : Nat) (leaves : List Nat) :
    specP2P D periodic l leaves = leaves.flatMap fun t => leaves.flatMap fun s =>
      ((imageShifts D periodic).map fun k => k.map (· * (2:Int)^l)).filterMap fun k => specPInner D l t (toI (decode D l t)) s k := by
  simp only [specP2P_eq, triples, levelShifts, specPInner_eq]

section
variable (D : Nat) (periodic : Bool) (l : Nat)

/-- the specification's inner body for one-sided direct pairs -/
def specTInner (t : Nat) (tp : List Int) (s : Nat) (k : List Int) : Option Elem :=
  let off := vsub (vadd (toI (decode D l s)) k) tp
  if off.all (fun o => o.natAbs ≤ 1) then some (Elem.p2pTsm s t (code3 off)) else none

theorem specTInner_eq (t s : Nat) (k : List Int) :
    specTInner D l t (toI (decode D l t)) s k =
      if (vsub (vadd (toI (decode D l s)) k) (toI (decode D l t))).all (fun o => decide (o.natAbs ≤ 1)) then
        some (Elem.p2pTsm s t (code3 (vsub (vadd (toI (decode D l s)) k) (toI (decode D l t))))) else none := rfl

variable {D l} in
theorem specTInner_near {t s : Nat} {tp k : List Int} (h : (specTInner D l t tp s k).isSome) :
    (vsub (vadd (toI (decode D l s)) k) tp).all (fun o => decide (o.natAbs ≤ 1)) = true := by
  rw [specTInner] at h
  split at h
  · next hacc => exact hacc
  · exact nomatch h

theorem nlistFull_perm (t : Nat) (ht : t < 2^(D*l)) :
    (nlistCell D periodic l t 0 false ++ [({ tgt := t, src := t, tpos := 0, code := code3 (List.replicate D 0) } : Inter)]).Perm
      ((nbrs periodic (2^l) (toI (decode D l t))).map fun q =>
        { tgt := t, src := cellOf D l q, tpos := 0, code := code3 (vsub q (toI (decode D l t))) }) := by
  have htp := toI_decode_bounds D l t
  have hmem : toI (decode D l t) ∈ nbrs periodic (2^l) (toI (decode D l t)) :=
    (mem_nbrs periodic htp _).2 ⟨adjV_refl _, fun _ => htp⟩
  -- the entry that the map on the right makes of the position of `t` itself is the appended self entry
  have hself : ({ tgt := t, src := cellOf D l (toI (decode D l t)), tpos := 0, code := code3 (vsub (toI (decode D l t)) (toI (decode D l t))) } : Inter) =
      { tgt := t, src := t, tpos := 0, code := code3 (List.replicate D 0) } := by
    rw [cellOf_toI_decode D l t ht, vsub_self, toI_length, decode_length]
  -- `filterMap_ne_append`: the map over all positions = the entries of the others ++ [the entry of that one]
  refine .trans (.of_eq ?_) (filterMap_ne_append _ (nodup_nbrs periodic _ _) hmem)
  rw [nlistCell_eq, hself]
  congr 1
  -- the builder skips the zero offset, that is the position of `t`, and without upper exclusion keeps every other one
  apply filterMap_congr_left
  intro q hq
  have hz := vsub_all_zero q _ (nbrs_bounds htp q hq).1
  by_cases h : q = toI (decode D l t)
  · rw [if_pos (hz.2 h), if_pos h]
  · rw [if_neg (mt hz.1 h), if_neg h]
    rfl
end

/-- **characterisation of the target/source neighbour enumeration** (one target leaf): full neighbour list plus self
    entry, kept when the source leaf exists = the specification's one-sided direct pairs -/
theorem nlistTsm_target_perm (D : Nat) (periodic : Bool) (l : Nat) (t : Nat) (srcs : List Nat) (ht : t < 2^(D*l))
    (hs : ∀ s ∈ srcs, s < 2^(D*l)) (hnd : srcs.Nodup) :
    (((nlistCell D periodic l t 0 false ++ [({ tgt := t, src := t, tpos := 0, code := code3 (List.replicate D 0) } : Inter)]).filter
        fun x => srcs.contains x.src).map elemP2PTsm).Perm
      (srcs.flatMap fun s => ((imageShifts D periodic).map fun k => k.map (· * (2:Int)^l)).filterMap fun k =>
        specTInner D l t (toI (decode D l t)) s k) := by
  have htp := toI_decode_bounds D l t
  have hl : (toI (decode D l t)).length = D := by simp
  refine (((nlistFull_perm D periodic l t ht).filter _).map _).trans ?_
  rw [List.filter_map, List.map_map, ← List.filterMap_eq_map, List.filterMap_filter]
  simp only [List.filterMap_map, Function.comp_def]
  refine (List.Perm.of_eq (filterMap_congr_left fun q hq => ?_)).trans (images_perm hl htp srcs hs hnd
    (fun s m => specTInner D l t (toI (decode D l t)) s (m.map (· * (2:Int)^l))) fun _ _ => specTInner_near)
  simp [specTInner, ← virt_def, virt_cellOf D l q ((nbrs_bounds htp q hq).1.trans hl), nbrs_all_near htp q hq, elemP2PTsm]

theorem specP2PTsm_by_target (D : Nat) (periodic : Bool) (l : Nat) (tgts srcs : List Nat) :
    specP2PTsm D periodic l tgts srcs = tgts.flatMap fun t => srcs.flatMap fun s =>
      ((imageShifts D periodic).map fun k => k.map (· * (2:Int)^l)).filterMap fun k => specTInner D l t (toI (decode D l t)) s k := by
  simp only [specP2PTsm_eq, triples, levelShifts, specTInner_eq]

theorem p2p_level_char (D : Nat) (periodic : Bool) (l : Nat) (leaves : List Nat)
    (hs : ∀ s ∈ leaves, s < 2^(D*l)) (hnd : leaves.Nodup) :
    ((leaves.flatMap fun c => (nlistCell D periodic l c 0 true).filter fun x => leaves.contains x.src).map elemP2P).Perm
      (specP2P D periodic l leaves) := by
  rw [specP2P_by_target, List.map_flatMap]
  exact flatMap_perm_of_forall fun t _ => nlist_target_perm D periodic l t leaves hs hnd

theorem p2pTsm_level_char (D : Nat) (periodic : Bool) (l : Nat) (tgts srcs : List Nat)
    (ht : ∀ t ∈ tgts, t < 2^(D*l)) (hs : ∀ s ∈ srcs, s < 2^(D*l)) (hnd : srcs.Nodup) :
    ((tgts.flatMap fun c => (nlistCell D periodic l c 0 false ++ [({ tgt := c, src := c, tpos := 0, code := code3 (List.replicate D 0) } : Inter)]).filter
        fun (x : Inter) => srcs.contains x.src).map elemP2PTsm).Perm
      (specP2PTsm D periodic l tgts srcs) := by
  rw [specP2PTsm_by_target, List.map_flatMap]
  exact flatMap_perm_of_forall fun t ht' => nlistTsm_target_perm D periodic l t srcs (ht t ht') hs hnd

end Tbfmm
