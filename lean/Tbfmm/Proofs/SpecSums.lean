import Tbfmm.Proofs.SumOver
import Tbfmm.Proofs.SpecPairs
/-! What an element contributes does not depend on the shift: a sum over `triples` is, pair by pair, the contribution times the
number of accepted shifts. -/
namespace Tbfmm

theorem sumOver_triples {α β γ ε} {T : List α} {S : List β} {K : List γ} {test : α → β → γ → Bool} {mk : α → β → γ → ε}
    {c : ε → Nat} (w : α → β → Nat) (hc : ∀ t ∈ T, ∀ s ∈ S, ∀ k, c (mk t s k) = w t s) :
    sumOver (triples T S K test mk) c =
      sumOver T fun t => sumOver S fun s => sumOver K (fun k => if test t s k then 1 else 0) * w t s := by
  rw [triples, sumOver_flatMap]
  apply sumOver_congr
  intro t ht
  rw [sumOver_flatMap]
  apply sumOver_congr
  intro s hs
  rw [sumOver_filterMap, ← sumOver_mul_right]
  apply sumOver_congr
  intro k _
  cases test t s k <;> simp [hc t ht s hs]

/-- The callers' element (`m2lCode` / `p2pCode`) is `mk t s 0` only up to `vadd_decode_zero`: hence `e` with `he`.  The
    instance is an argument so that the right side matches the caller's `if` whichever `Decidable` instance that has. -/
theorem count_shifts_np {T S : List Nat} {D l : Nat} {test : Nat → Nat → List Int → Bool} {mk : Nat → Nat → List Int → Elem}
    (hmk : ∀ t s k, (mk t s k).ends = (t, s)) (t s : Nat) {e : Elem} (he : mk t s (List.replicate D 0) = e)
    [Decidable (e ∈ triples T S (levelShifts D false l) test mk)] :
    (if t ∈ T ∧ s ∈ S then sumOver (levelShifts D false l) (fun k => if test t s k then 1 else 0) else 0) =
      if e ∈ triples T S (levelShifts D false l) test mk then 1 else 0 := by
  subst he
  have h : mk t s (List.replicate D 0) ∈ triples T S (levelShifts D false l) test mk ↔
      (t ∈ T ∧ s ∈ S) ∧ test t s (List.replicate D 0) = true := by
    rw [mem_triples_ends Elem.ends hmk, hmk, levelShifts_false]
    simp [and_assoc]
  simp only [h]
  rw [levelShifts_false, sumOver_cons, sumOver_nil, Nat.add_zero]
  by_cases h1 : t ∈ T ∧ s ∈ S <;> simp [h1]

end Tbfmm
