import Tbfmm.Proofs.Leaves
import Tbfmm.Proofs.ListLemmas
import Tbfmm.Model.Kernel
namespace Tbfmm

def insLeaf (m : Std.HashMap Nat (List Nat)) (l : Leaf) : Std.HashMap Nat (List Nat) := m.insert l.idx l.parts

theorem partsOf_eq_fold (t : Tree) (i : Nat) : t.partsOf i = (t.pgroups.flatten.foldl insLeaf {}).getD i [] := by
  unfold Tree.partsOf
  rw [List.foldl_flatten]; rfl

theorem ins_fold_other (xs : List Leaf) (m : Std.HashMap Nat (List Nat)) (k : Nat) (h : ∀ x ∈ xs, x.idx ≠ k) :
    (xs.foldl insLeaf m).getD k [] = m.getD k [] := by
  induction xs generalizing m with
  | nil => rfl
  | cons x xs ih =>
    rw [List.foldl_cons, ih _ fun y hy => h y (List.mem_cons_of_mem _ hy), insLeaf, Std.HashMap.getD_insert]
    simp [h x List.mem_cons_self]

theorem ins_fold_mem (xs : List Leaf) (hn : (xs.map (·.idx)).Nodup) (m : Std.HashMap Nat (List Nat)) (lf : Leaf) (hl : lf ∈ xs) :
    (xs.foldl insLeaf m).getD lf.idx [] = lf.parts := by
  induction xs generalizing m with
  | nil => simp at hl
  | cons x xs ih =>
    obtain ⟨hx, hn⟩ := List.nodup_cons.mp hn
    rw [List.foldl_cons]
    rcases List.mem_cons.mp hl with rfl | hl
    · -- no later leaf overwrites the entry
      rw [ins_fold_other xs _ _ fun y hy e => hx (List.mem_map.mpr ⟨y, hy, e⟩), insLeaf, Std.HashMap.getD_insert_self]
    · exact ih hn _ hl

theorem exists_leaf_of_mem_ins_fold (xs : List Leaf) (m : Std.HashMap Nat (List Nat)) (k p : Nat) (h : p ∈ (xs.foldl insLeaf m).getD k []) :
    p ∈ m.getD k [] ∨ ∃ lf ∈ xs, p ∈ lf.parts := by
  induction xs generalizing m with
  | nil => exact Or.inl h
  | cons x xs ih =>
    rcases ih _ h with h1 | ⟨lf, hl, hp⟩
    · rw [insLeaf, Std.HashMap.getD_insert] at h1
      split at h1
      · exact Or.inr ⟨x, List.mem_cons_self, h1⟩
      · exact Or.inl h1
    · exact Or.inr ⟨lf, List.mem_cons_of_mem _ hl, hp⟩

theorem partsOf_spec (t : Tree) (hn : ((t.pgroups.flatten).map (·.idx)).Nodup) (lf : Leaf) (hl : lf ∈ t.pgroups.flatten) :
    t.partsOf lf.idx = lf.parts := by
  rw [partsOf_eq_fold]
  exact ins_fold_mem _ hn _ lf hl

theorem exists_leaf_of_mem_partsOf (t : Tree) (i p : Nat) (h : p ∈ t.partsOf i) : ∃ lf ∈ t.pgroups.flatten, p ∈ lf.parts := by
  rw [partsOf_eq_fold] at h
  exact (exists_leaf_of_mem_ins_fold _ _ i p h).resolve_left (by simp)

theorem particle_unique (ls : List Leaf) (hidx : (ls.map (·.idx)).Nodup) (hparts : (ls.flatMap (·.parts)).Nodup)
    (p : Nat) (hp : p ∈ ls.flatMap (·.parts)) :
    ∃ lf ∈ ls, ∀ lf' ∈ ls, lf'.parts.count p = if lf'.idx = lf.idx then 1 else 0 := by
  obtain ⟨lf, hlf, hpl⟩ := List.mem_flatMap.mp hp
  obtain ⟨hnd, hdisj⟩ := List.pairwise_flatMap.mp hparts
  have hdis : ∀ ⦃a⦄, a ∈ ls → ∀ ⦃b⦄, b ∈ ls → a.idx ≠ b.idx → ∀ x ∈ a.parts, ∀ y ∈ b.parts, x ≠ y := by
    refine List.Pairwise.forall_of_forall_of_flip (fun _ _ h => absurd rfl h) (hdisj.imp ?_) (hdisj.imp ?_)
    · exact fun h _ => h
    · exact fun h _ x hx y hy e => h y hy x hx e.symm
  refine ⟨lf, hlf, fun lf' hlf' => ?_⟩
  split
  · next e => rw [eq_of_nodup_map hidx hlf' hlf e, List.Nodup.count (hnd lf hlf), if_pos hpl]
  · next e => exact List.count_eq_zero_of_not_mem fun hpl' => hdis hlf' hlf e p hpl' p hpl rfl

theorem stored_parts (t : Tree) : t.stored.map (·.2) = t.pgroups.flatten.flatMap (·.parts) := by
  simp only [Tree.stored, List.map_flatMap, List.map_map, Function.comp_def, List.map_id', ← List.flatMap_id, List.flatMap_assoc]
  rfl

theorem built_parts (D H bs : Nat) (mode : Bool) (leafIdx : List Nat) (hbs : 0 < bs) :
    ((Tree.build D H bs mode leafIdx).pgroups.flatten.flatMap (·.parts)).Perm (List.range leafIdx.length) := by
  rw [← stored_parts]; exact C13_indices_perm D H bs mode leafIdx hbs

theorem partsOf_lt (t : Tree) {N : Nat} (hP : (t.pgroups.flatten.flatMap (·.parts)).Perm (List.range N)) (i : Nat) :
    ∀ x ∈ t.partsOf i, x < N := by
  intro x hx
  obtain ⟨lf, hl, hm⟩ := exists_leaf_of_mem_partsOf _ i x hx
  exact List.mem_range.1 (hP.subset (List.mem_flatMap.2 ⟨lf, hl, hm⟩))

end Tbfmm
