import Tbfmm.Proofs.SpecPairs
import Tbfmm.Proofs.SpecCells
import Tbfmm.Proofs.FarInt
/-! The specification's transfer test between the ancestors at level `L-j` of a leaf and of an image of a leaf is the interaction
predicate at height `j`. -/
namespace Tbfmm

open FarInt

theorem perTest_iff_interI (D L : Nat) (a b : Nat) (K : List Int) (j : Nat) (hj : j + 1 ≤ L) :
    perTest D (L-j) (a / 2^(D*j)) (b / 2^(D*j)) (K.map (· * (2:Int)^(L-j))) = true ↔
      interI j (toI (decode D L a)) (virt D L b K) := by
  unfold perTest interI
  rw [upI_succ, upI_succ, upI_virt D L b K j (by omega), upI_decode D L a j (by omega)]
  simp only [virt_def, Bool.and_eq_true, Bool.not_eq_true']

/-- a transfer between the ancestors at height `k` of two occupied leaves is in the specification iff the leaves interact at
    height `k` (`2`: two leaf lists, target and source) -/
theorem m2l_between_ancestors_iff2 (D L : Nat) (leavesT leavesS : List Nat) (a b : Nat) (ha : a ∈ leavesT) (hb : b ∈ leavesS)
    (k : Nat) (hk : k + 2 ≤ L) :
    (∃ c, Elem.m2l (L-k) (a / 2^(D*k)) (b / 2^(D*k)) c ∈
        specM2LLevel D false (L-k) (specCells D L leavesT (L-k)) (specCells D L leavesS (L-k))) ↔
      Far.inter k (decode D L a) (decode D L b) := by
  have test := perTest_iff_interI D L a b (List.replicate D 0) k (by omega)
  rw [List.map_replicate, Int.zero_mul, virt_zero, interI_toI] at test
  rw [exists_m2l_np, test]
  have cell : ∀ {leaves x}, x ∈ leaves → x / 2^(D*k) ∈ specCells D L leaves (L-k) := fun hx =>
    anc_sub D L k _ (by omega) ▸ specCells_anc D L _ hx (L-k)
  exact ⟨fun h => h.2.2.2, fun h => ⟨by omega, cell ha, cell hb, h⟩⟩

theorem m2l_between_ancestors_iff (D L : Nat) (leaves : List Nat) (a b : Nat) (ha : a ∈ leaves) (hb : b ∈ leaves)
    (k : Nat) (hk : k + 2 ≤ L) :
    (∃ c, Elem.m2l (L-k) (a / 2^(D*k)) (b / 2^(D*k)) c ∈
        specM2LLevel D false (L-k) (specCells D L leaves (L-k)) (specCells D L leaves (L-k))) ↔
      Far.inter k (decode D L a) (decode D L b) :=
  m2l_between_ancestors_iff2 D L leaves leaves a b ha hb k hk

/-- **C10, far images**: `a` and the `K`-image of `b` not adjacent ⇒ the specification accepts the transfer between their
    ancestors at exactly one level `L-j ≥ 1` -/
theorem C10_periodic_far_once (D L : Nat) (a b : Nat) (K : List Int) (hK : K.length = D) (hKr : ∀ x ∈ K, -1 ≤ x ∧ x ≤ 1)
    (hna : adjV (toI (decode D L a)) (vadd (toI (decode D L b)) (K.map (· * (2:Int)^L))) = false) :
    ∃ j, (j + 1 ≤ L ∧ perTest D (L-j) (a / 2^(D*j)) (b / 2^(D*j)) (K.map (· * (2:Int)^(L-j))) = true) ∧
      ∀ j', j' + 1 ≤ L → perTest D (L-j') (a / 2^(D*j')) (b / 2^(D*j')) (K.map (· * (2:Int)^(L-j'))) = true → j' = j := by
  -- at the root level `a` sits in box 0 and the image in box `K`, one of its `3^D` neighbours
  have htop : adjV (upI L (toI (decode D L a))) (upI L (vadd (toI (decode D L b)) (K.map (· * (2:Int)^L)))) = true := by
    rw [← virt_def, upI_virt_top D L b K hK, ← virt_zero, upI_virt_top D L a _ List.length_replicate, adjV_iff]
    refine ⟨by simp [hK], fun i h1 h2 => ?_⟩
    have := hKr K[i] (List.getElem_mem h2)
    simp only [List.getElem_replicate]
    omega
  exact onset_congr (perTest_iff_interI D L a b K) (far_unique_int L _ _ htop hna)

theorem far_pair_once (D L : Nat) (leavesT leavesS : List Nat) (a b : Nat) (ha : a ∈ leavesT) (hb : b ∈ leavesS)
    (hna : ¬ Far.adj (decode D L a) (decode D L b)) :
    ∃ k, (k + 2 ≤ L ∧ ∃ c, Elem.m2l (L-k) (a / 2^(D*k)) (b / 2^(D*k)) c ∈
        specM2LLevel D false (L-k) (specCells D L leavesT (L-k)) (specCells D L leavesS (L-k))) ∧
      ∀ k', k' + 2 ≤ L → (∃ c, Elem.m2l (L-k') (a / 2^(D*k')) (b / 2^(D*k')) c ∈
        specM2LLevel D false (L-k') (specCells D L leavesT (L-k')) (specCells D L leavesS (L-k'))) → k' = k :=
  onset_congr (m2l_between_ancestors_iff2 D L leavesT leavesS a b ha hb)
    (Far.far_unique L (decode D L a) (decode D L b) (by simp) (decode_lt D L a) (decode_lt D L b) hna)

/-- **C01, far pairs**: two occupied leaves that are not adjacent are linked by a transfer between their
    ancestors at exactly one level (`L-k ≥ 2`) -/
theorem C01_far_pair_once (D L : Nat) (leaves : List Nat) (a b : Nat) (ha : a ∈ leaves) (hb : b ∈ leaves)
    (hna : ¬ Far.adj (decode D L a) (decode D L b)) :
    ∃ k, (k + 2 ≤ L ∧ ∃ c, Elem.m2l (L-k) (a / 2^(D*k)) (b / 2^(D*k)) c ∈
        specM2LLevel D false (L-k) (specCells D L leaves (L-k)) (specCells D L leaves (L-k))) ∧
      ∀ k', k' + 2 ≤ L → (∃ c, Elem.m2l (L-k') (a / 2^(D*k')) (b / 2^(D*k')) c ∈
        specM2LLevel D false (L-k') (specCells D L leaves (L-k')) (specCells D L leaves (L-k'))) → k' = k :=
  far_pair_once D L leaves leaves a b ha hb hna

/-- **C10, near images**: `a` and the `K`-image of `b` adjacent (or equal) ⇒ no transfer at any level (`hK` is not needed) -/
theorem C10_periodic_near_none (D L : Nat) (a b : Nat) (K : List Int) (hK : K.length = D)
    (hadj : adjV (toI (decode D L a)) (vadd (toI (decode D L b)) (K.map (· * (2:Int)^L))) = true) (j : Nat) (hj : j + 1 ≤ L) :
    perTest D (L-j) (a / 2^(D*j)) (b / 2^(D*j)) (K.map (· * (2:Int)^(L-j))) = false :=
  Bool.eq_false_iff.2 fun h => near_none_int _ _ hadj j ((perTest_iff_interI D L a b K j hj).1 h)

theorem near_pair_none (D L : Nat) (leavesT leavesS : List Nat) (a b : Nat) (ha : a ∈ leavesT) (hb : b ∈ leavesS)
    (hadj : Far.adj (decode D L a) (decode D L b)) (k : Nat) (hk : k + 2 ≤ L) :
    ¬ ∃ c, Elem.m2l (L-k) (a / 2^(D*k)) (b / 2^(D*k)) c ∈
        specM2LLevel D false (L-k) (specCells D L leavesT (L-k)) (specCells D L leavesS (L-k)) :=
  fun h => Far.near_none _ _ hadj k ((m2l_between_ancestors_iff2 D L leavesT leavesS a b ha hb k hk).1 h)

/-- **C01, near pairs**: adjacent (or equal) leaves are never linked by a transfer, at any level -/
theorem C01_near_pair_none (D L : Nat) (leaves : List Nat) (a b : Nat) (ha : a ∈ leaves) (hb : b ∈ leaves)
    (hadj : Far.adj (decode D L a) (decode D L b)) (k : Nat) (hk : k + 2 ≤ L) :
    ¬ ∃ c, Elem.m2l (L-k) (a / 2^(D*k)) (b / 2^(D*k)) c ∈
        specM2LLevel D false (L-k) (specCells D L leaves (L-k)) (specCells D L leaves (L-k)) :=
  near_pair_none D L leaves leaves a b ha hb hadj k hk

end Tbfmm
