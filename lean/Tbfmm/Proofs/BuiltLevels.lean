import Tbfmm.Proofs.LevelWalk
import Tbfmm.Proofs.LevelUp
import Tbfmm.Proofs.Leaves
import Tbfmm.Proofs.Morton
namespace Tbfmm

/-- a level `up` of a tree and the level `lo` below it (the hypotheses of `links_of_parents`) -/
structure LevelInv (D : Nat) (up lo : List Group) : Prop where
  up_ne : ∀ g ∈ up, g ≠ []
  lo_ne : ∀ g ∈ lo, g ≠ []
  parents : up.flatten = keys (runsOf (parent D) lo.flatten)
  sorted : up.flatten.Pairwise (· < ·)

theorem LevelInv.groupsInv {D : Nat} {up lo : List Group} (inv : LevelInv D up lo) : GroupsInv up :=
  ⟨inv.up_ne, inv.sorted⟩

theorem LevelInv.links {D : Nat} {up lo : List Group} (inv : LevelInv D up lo) :
    linksOf (calls (parent D) up lo) = lo.flatten.map (link (parent D)) :=
  links_of_parents (parent D) up lo inv.up_ne inv.lo_ne inv.parents inv.sorted

theorem LevelInv.of_flatten {D : Nat} {up lo : List Group} (hup : ∀ g ∈ up, g ≠ []) (hlo : ∀ g ∈ lo, g ≠ [])
    (hflat : up.flatten = keys (runsOf (parent D) lo.flatten)) (hs : lo.flatten.Pairwise (· < ·)) :
    LevelInv D up lo :=
  ⟨hup, hlo, hflat, hflat ▸ keys_runsOf_sorted _ _ (sorted_mono_par D _ hs)⟩

theorem levelUpFixed_inv (D bs : Nat) (hbs : 0 < bs) (lo : List Group) (hlo : ∀ g ∈ lo, g ≠ [])
    (hs : lo.flatten.Pairwise (· < ·)) :
    LevelInv D (levelUpFixed (parent D) bs lo) lo ∧ ∀ g ∈ levelUpFixed (parent D) bs lo, g.length ≤ bs :=
  ⟨.of_flatten (levelUpFixed_ne_nil _ bs lo) hlo (levelUpFixed_flatten _ bs lo) hs, levelUpFixed_size _ bs hbs lo⟩

theorem levelUp_inv (D bs : Nat) (mode : Bool) (hbs : 0 < bs) (lo : List Group) (hlo : ∀ g ∈ lo, g ≠ [])
    (hs : lo.flatten.Pairwise (· < ·)) :
    LevelInv D (if mode then levelUpPerGroup (parent D) lo else levelUpFixed (parent D) bs lo) lo := by
  cases mode with
  | false => exact (levelUpFixed_inv D bs hbs lo hlo hs).1
  | true =>
    obtain ⟨h1, h2⟩ := levelUpPerGroup_spec (parent D) lo hlo (sorted_mono_par D _ hs)
    exact .of_flatten h2 hlo h1 hs

theorem buildLevels_length (D bs : Nat) (mode : Bool) (n : Nat) (cur : List Group) :
    (buildLevels D bs mode n cur).length = n + 1 := by
  induction n generalizing cur with
  | zero => rfl
  | succ n ih => rw [buildLevels, List.length_append, ih]; rfl

/-- all levels produced by `buildLevels`, for both grouping modes, satisfy the invariant pairwise -/
theorem buildLevels_inv (D bs : Nat) (mode : Bool) (hbs : 0 < bs) (n : Nat) (cur : List Group)
    (hne : ∀ g ∈ cur, g ≠ []) (hs : cur.flatten.Pairwise (· < ·)) :
    (buildLevels D bs mode n cur).length = n + 1 ∧ (buildLevels D bs mode n cur).getLast? = some cur ∧
    ∀ l, l + 1 < (buildLevels D bs mode n cur).length →
      LevelInv D ((buildLevels D bs mode n cur).getD l []) ((buildLevels D bs mode n cur).getD (l+1) []) := by
  refine ⟨buildLevels_length D bs mode n cur, ?_⟩
  induction n generalizing cur with
  | zero => simp [buildLevels]
  | succ n ih =>
    have inv := levelUp_inv D bs mode hbs cur hne hs
    rw [buildLevels]
    generalize (if mode then levelUpPerGroup (parent D) cur else levelUpFixed (parent D) bs cur) = up at inv ⊢
    have h1 := buildLevels_length D bs mode n up
    obtain ⟨h2, h3⟩ := ih up inv.up_ne inv.sorted
    refine ⟨List.getLast?_concat .., fun l hl => ?_⟩
    rw [List.length_append, List.length_singleton, h1] at hl
    rcases Nat.lt_or_eq_of_le (Nat.le_of_lt_succ hl) with hlast | hlast
    · -- both levels are among those above `cur`
      have h' : l + 1 < (buildLevels D bs mode n _).length := h1.symm ▸ hlast
      rw [getD_append_of_lt (Nat.lt_of_succ_lt h'), getD_append_of_lt h']
      exact h3 l h'
    · -- the last level above `cur`, and `cur`
      obtain rfl : l = n := Nat.succ.inj hlast
      rw [getD_append_of_lt (h1.symm ▸ Nat.lt_succ_self l), getD_of_getLast? h2 h1, getD_append_last h1]
      exact inv

theorem buildLevels_fixed_inv (D bs : Nat) (hbs : 0 < bs) (n : Nat) (cur : List Group)
    (hne : ∀ g ∈ cur, g ≠ []) (hs : cur.flatten.Pairwise (· < ·)) :
    let lv := buildLevels D bs false n cur
    lv.length = n + 1 ∧ lv.getLast? = some cur ∧
    ∀ l, l + 1 < lv.length → LevelInv D (lv.getD l []) (lv.getD (l+1) []) :=
  buildLevels_inv D bs false hbs n cur hne hs

theorem build_levels_eq (D H bs : Nat) (mode : Bool) (leafIdx : List Nat) (hne : leafIdx ≠ []) :
    (Tree.build D H bs mode leafIdx).levels = buildLevels D bs mode (H - 1) (Tree.build D H bs mode leafIdx).leafGroups ∧
    (Tree.build D H bs mode leafIdx).H = H ∧ (Tree.build D H bs mode leafIdx).D = D := by
  simp only [Tree.build]
  have : ¬ leafIdx.isEmpty = true := by simpa using hne
  simp [this, Tree.leafGroups]

section
variable (D H bs : Nat) (mode : Bool) (leafIdx : List Nat) (hbs : 0 < bs) (hne : leafIdx ≠ [])
include hbs hne

theorem built_levels :
    (∀ l, l + 1 < H → LevelInv D ((Tree.build D H bs mode leafIdx).level l) ((Tree.build D H bs mode leafIdx).level (l+1))) ∧
    (Tree.build D H bs mode leafIdx).level (H - 1) = (Tree.build D H bs mode leafIdx).leafGroups ∧
    ∀ l, H - 1 < l → (Tree.build D H bs mode leafIdx).level l = [] := by
  have hleaf := C07_leaf_groups D H bs mode leafIdx hbs
  obtain ⟨h1, h2, h3⟩ := buildLevels_inv D bs mode hbs (H - 1) _ (fun g hg => (hleaf.2 g hg).1) hleaf.1
  simp only [Tree.level, (build_levels_eq D H bs mode leafIdx hne).1]
  exact ⟨fun l hl => h3 l (by rw [h1]; omega), getD_of_getLast? h2 h1 [], fun l hl => by
    rw [List.getD_eq_getElem?_getD, List.getElem?_eq_none (by rw [h1]; omega)]; rfl⟩

theorem built_level_last :
    (Tree.build D H bs mode leafIdx).level (H - 1) = (Tree.build D H bs mode leafIdx).leafGroups :=
  (built_levels D H bs mode leafIdx hbs hne).2.1

end

/-- **built trees, both grouping modes, every block size**: at every level the kernel calls of the
    upward (and downward) pass carry every (parent, child) link exactly once, in child order -/
theorem C01_links_of_built_tree' (D H bs : Nat) (mode : Bool) (leafIdx : List Nat) (hbs : 0 < bs) (hne : leafIdx ≠ []) (l : Nat) (hl : l + 1 < H) :
    linksOf (calls (parent D) ((Tree.build D H bs mode leafIdx).level l) ((Tree.build D H bs mode leafIdx).level (l+1))) =
      ((Tree.build D H bs mode leafIdx).level (l+1)).flatten.map (link (parent D)) :=
  ((built_levels D H bs mode leafIdx hbs hne).1 l hl).links

/-- the same for the fixed-size grouping alone -/
theorem C01_links_of_built_tree (D H bs : Nat) (leafIdx : List Nat) (hbs : 0 < bs) (hne : leafIdx ≠ []) (l : Nat) (hl : l + 1 < H) :
    let t := Tree.build D H bs false leafIdx
    linksOf (calls (parent D) (t.level l) (t.level (l+1))) = (t.level (l+1)).flatten.map (link (parent D)) :=
  C01_links_of_built_tree' D H bs false leafIdx hbs hne l hl

end Tbfmm
