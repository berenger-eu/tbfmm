import Tbfmm.Proofs.Passes
import Tbfmm.Proofs.BuiltPhases
/-!
The transfer phase is a parameter (`TransferGives`: any M2L calls that turn the multipoles the upward pass leaves into locals
`A`), so that the non-periodic, target/source and periodic lists all fit; single tree: source tree = target tree.
-/
namespace Tbfmm

namespace BuiltFacts

variable {D H : Nat} {T : Tree} {ls : List Leaf} (F : BuiltFacts D H T ls) (q : Nat) (po po' : Nat → List Nat)
include F

theorem p2m_eval {b : Nat} (hb : b ∈ ls.map (·.idx))
    (hq : ∀ i ∈ ls.map (·.idx), (T.partsOf i).count q = if i = b then 1 else 0)
    (upper : Nat) (hu : upper < H) (s : State) (hm : ∀ lv i, s.m lv i = 0) (lv i : Nat) :
    (applyCalls (wq q) (H-1) po T.partsOf s (p2mAll T upper)).m lv i = if lv = H - 1 ∧ i = b then 1 else 0 := by
  rw [(phase_p2m (wq q) (H-1) po T.partsOf _ (F.p2mAll_wf upper) s).1, hm, Nat.zero_add, F.p2mAll_elems, if_pos hu, sumOver_map,
    sumOver_congr (g := fun j => (T.partsOf j).count q * if (H - 1, j) = (lv, i) then 1 else 0) (fun j _ => by
      show (if (H - 1, j) = (lv, i) then sumW (wq q) (T.partsOf j) else 0) = _
      rw [sumW_wq]; split <;> simp),
    sumOver_at F.nodup hb hq]
  simp only [Prod.mk.injEq, eq_comm]

theorem upward {b : Nat} (hb : b ∈ ls.map (·.idx))
    (hq : ∀ i ∈ ls.map (·.idx), (T.partsOf i).count q = if i = b then 1 else 0)
    (upper : Nat) (hu : upper < H) (s : State) (hm : ∀ lv i, s.m lv i = 0) :
    (∀ ℓ i, upper ≤ ℓ → ℓ ≤ H - 1 →
      (applyCalls (wq q) (H-1) po T.partsOf s (p2mAll T upper ++ m2mAll T upper)).m ℓ i = if i = anc D (H-1) ℓ b then 1 else 0) ∧
    (∀ lv i, (applyCalls (wq q) (H-1) po T.partsOf s (p2mAll T upper ++ m2mAll T upper)).l lv i = s.l lv i) ∧
    (∀ p, (applyCalls (wq q) (H-1) po T.partsOf s (p2mAll T upper ++ m2mAll T upper)).r p = s.r p) := by
  obtain ⟨_, p2, p3⟩ := phase_p2m (wq q) (H-1) po T.partsOf _ (F.p2mAll_wf upper) s
  have p1 := F.p2m_eval q po hb hq upper hu s hm
  -- the M2M levels are `upper … H-2`: `k = H-1-upper` of them, and `upper + k` is the leaf level
  have hk : upper + (H - 1 - upper) = H - 1 := Nat.add_sub_cancel' (Nat.le_sub_one_of_lt hu)
  -- after P2M the leaf level holds `q` in `b`, the levels above it nothing: what `m2m_pass` asks of the state it starts from
  have hleaf : ∀ ℓ i, upper + (H - 1 - upper) ≤ ℓ → ℓ ≤ H - 1 →
      (applyCalls (wq q) (H-1) po T.partsOf s (p2mAll T upper)).m ℓ i = if i = anc D (H-1) ℓ b then 1 else 0 := by
    intro ℓ i h1 h2
    rw [p1, Nat.le_antisymm h2 (hk ▸ h1), anc_leaf]; simp
  have habove : ∀ ℓ i, ℓ < upper + (H - 1 - upper) → (applyCalls (wq q) (H-1) po T.partsOf s (p2mAll T upper)).m ℓ i = 0 :=
    fun ℓ i h1 => by rw [p1, if_neg (fun h => Nat.ne_of_lt (hk ▸ h1) h.1)]
  rw [applyCalls_append, F.m2mAll_eq, midLevels_eq]
  obtain ⟨m1, _, m3, m4⟩ := m2m_pass q D (H-1) po T.partsOf (fun ℓ => specCells D (H-1) (ls.map (·.idx)) ℓ) b
    (fun _ => specCells_nodup) (fun ℓ _ => specCells_anc D (H-1) _ hb ℓ) upper
    (fun ℓ => m2mLevel D ℓ (T.level ℓ) (T.level (ℓ+1))) (fun _ => m2mLevel_form) (H - 1 - upper) (Nat.le_of_eq hk)
    (fun ℓ _ h2 => F.m2mLevel_refines ℓ (Nat.add_lt_of_lt_sub (hk ▸ h2))) _ hleaf habove
  exact ⟨m1, fun lv i => (m3 lv i).trans (p2 lv i), fun p => (m4 p).trans (p3 p)⟩

theorem downward {a : Nat} (ha : a ∈ ls.map (·.idx)) (A : Nat → Nat → Nat)
    (upper : Nat) (hu : upper < H) (s : State) (hA : ∀ ℓ i, s.l ℓ i = A ℓ i) :
    (applyCalls (wq q) (H-1) po po' s (l2lAll T upper)).l (H-1) a =
      sumOver (List.range' upper (H - 1 + 1 - upper)) (fun ℓ => A ℓ (anc D (H-1) ℓ a)) ∧
    (∀ p, (applyCalls (wq q) (H-1) po po' s (l2lAll T upper)).r p = s.r p) := by
  have hk : upper + (H - 1 - upper) = H - 1 := Nat.add_sub_cancel' (Nat.le_sub_one_of_lt hu)
  rw [F.l2lAll_eq, midLevels_eq]
  -- from level `upper`, where the ancestor of `a` holds `A upper _`, down the `H-1-upper` levels to the leaf
  obtain ⟨d1, _, d3⟩ := l2l_pass q D (H-1) po po' (fun ℓ => specCells D (H-1) (ls.map (·.idx)) ℓ) a
    (fun _ => specCells_nodup) (fun ℓ _ => specCells_anc D (H-1) _ ha ℓ) A
    (fun ℓ => l2lLevel D ℓ (T.level ℓ) (T.level (ℓ+1))) (fun _ => l2lLevel_form) (H - 1 - upper) upper (Nat.le_of_eq hk)
    (fun ℓ _ h2 => F.l2lLevel_refines ℓ (Nat.add_lt_of_lt_sub (hk ▸ h2))) s
    (A upper (anc D (H-1) upper a)) (hA _ _) (fun ℓ i _ => hA ℓ i)
  rw [hk, anc_leaf] at d1
  -- `d1` has the sum as first term + `sumA`
  rw [← sumA_levels, if_pos (Nat.le_sub_one_of_lt hu)]
  exact ⟨d1, d3⟩

end BuiltFacts

/-- the calls `m2l` turn "the ancestors of `b` hold `q` once" (multipoles of the levels `upper … H-1`) and empty locals into
    the locals `A`.  It offers `upper ≤ H - 1` only because `m2l_phase_eval` asks for it. -/
def TransferGives (q D H upper b : Nat) (poT poS : Nat → List Nat) (m2l : List Call) (A : Nat → Nat → Nat) : Prop :=
  upper ≤ H - 1 → ∀ s : State, (∀ ℓ j, upper ≤ ℓ → ℓ ≤ H - 1 → s.m ℓ j = if j = anc D (H-1) ℓ b then 1 else 0) →
    (∀ lv i, s.l lv i = 0) → ∀ ℓ i, (applyCalls (wq q) (H-1) poT poS s m2l).l ℓ i = A ℓ i

/-- The left side is the `if act then s.l L a else 0` of `results_l2p`, the right one the left side of `far_count` and
    `far_count_per`. -/
theorem far_field {D H : Nat} {tS tT : Tree} {lsS lsT : List Leaf} (FS : BuiltFacts D H tS lsS) (FT : BuiltFacts D H tT lsT)
    (hH : 1 ≤ H) (q : Nat) {a b : Nat} (ha : a ∈ lsT.map (·.idx)) (hb : b ∈ lsS.map (·.idx))
    (hq : ∀ i ∈ lsS.map (·.idx), (tS.partsOf i).count q = if i = b then 1 else 0) (upper : Nat)
    {m2l : List Call} (hform : ∀ c ∈ m2l, ∃ lv t srcs, c = Call.m2l lv t srcs) {A : Nat → Nat → Nat}
    (hm2l : TransferGives q D H upper b tT.partsOf tS.partsOf m2l A) :
    (if decide (H > upper) then
        (applyCalls (wq q) (H-1) tT.partsOf tS.partsOf {} (p2mAll tS upper ++ m2mAll tS upper ++ m2l ++ l2lAll tT upper)).l (H-1) a
      else 0) =
      sumOver (List.range' upper (H - 1 + 1 - upper)) (fun ℓ => A ℓ (anc D (H-1) ℓ a)) ∧
    ∀ p, (applyCalls (wq q) (H-1) tT.partsOf tS.partsOf {} (p2mAll tS upper ++ m2mAll tS upper ++ m2l ++ l2lAll tT upper)).r p = 0 := by
  by_cases hu : upper < H
  · rw [applyCalls_append, applyCalls_append]
    obtain ⟨u1, u2, u3⟩ := FS.upward q tT.partsOf hb hq upper hu {} empty_m
    have t1 := hm2l (Nat.le_sub_one_of_lt hu) _ u1 (fun lv i => (u2 lv i).trans (empty_l lv i))
    obtain ⟨d1, d3⟩ := FT.downward q tT.partsOf tS.partsOf ha A upper hu _ t1
    refine ⟨?_, fun p => ?_⟩
    · rw [if_pos (decide_eq_true hu), d1]
    · rw [d3, (phase_m2l (wq q) (H-1) tT.partsOf tS.partsOf m2l hform _).2.2, u3]; exact empty_r p
  · -- `H ≤ upper`: nothing of the far field runs
    have hle : H ≤ upper := Nat.le_of_not_lt hu
    rw [p2mAll, if_neg (show ¬ tS.H > upper from FS.hH.symm ▸ hu), FS.m2mAll_eq, FT.l2lAll_eq, midLevels_eq,
      Nat.sub_eq_zero_of_le (Nat.le_trans (Nat.sub_le H 1) hle)]
    refine ⟨by rw [if_neg (by simpa using hu), Nat.sub_add_cancel hH, Nat.sub_eq_zero_of_le hle, List.range'_zero, sumOver_nil], fun p => ?_⟩
    simp only [List.range'_zero, List.reverse_nil, List.flatMap_nil, List.nil_append, List.append_nil]
    exact ((phase_m2l (wq q) (H-1) tT.partsOf tS.partsOf m2l hform _).2.2 p).trans (empty_r p)

end Tbfmm
