import Tbfmm.Proofs.InterPasses
import Tbfmm.Proofs.ExecChain
/-! The passes cell by cell, no grouping visible (`perGroup_eq_perCell`: the builders' position argument only fills `tpos`,
which no elementary interaction records); the elements of the M2M / L2L and leaf passes; which calls each pass makes (`*_form`). -/
namespace Tbfmm

theorem ilistCell_tpos (D : Nat) (periodic : Bool) (level c k : Nat) :
    ilistCell D periodic level c k = (ilistCell D periodic level c 0).map fun x => { x with tpos := k } := by
  unfold ilistCell
  -- (`split` on a body of this size is slow to check)
  by_cases hg : ((!periodic && decide (level < 2)) || (periodic && decide (level < 1))) = true
  · rw [if_pos hg, if_pos hg]; rfl
  · rw [if_neg hg, if_neg hg]
    simp only [List.map_flatMap, List.map_filterMap, apply_ite (Option.map _), Option.map_none, Option.map_some]

theorem nlistCell_tpos (D : Nat) (periodic : Bool) (level c k : Nat) (ue : Bool) :
    nlistCell D periodic level c k ue = (nlistCell D periodic level c 0 ue).map fun x => { x with tpos := k } := by
  unfold nlistCell
  simp only [List.map_filterMap, apply_ite (Option.map _), Option.map_none, Option.map_some]

theorem perGroup_eq_perCell {β} (f : Nat → Nat → List Inter) (e : Inter → β)
    (hf : ∀ c k, f c k = (f c 0).map fun x => { x with tpos := k }) (he : ∀ x k, e { x with tpos := k } = e x)
    (tg sg : List Group) :
    (tg.flatMap fun g => ((g.zipIdx).flatMap fun (c, k) => f c k).filter (presentFrom sg 0)).map e =
      (tg.flatten.flatMap fun c => (f c 0).filter fun x => sg.flatten.contains x.src).map e := by
  rw [funext (presentFrom_zero sg)]
  have one : ∀ (g : Group) (s : Nat), (((g.zipIdx s).flatMap fun (c, k) => f c k).filter fun x => sg.flatten.contains x.src).map e =
      (g.flatMap fun c => (f c 0).filter fun x => sg.flatten.contains x.src).map e := by
    intro g
    induction g with
    | nil => intro s; rfl
    | cons c g ih =>
      intro s
      simp only [List.zipIdx_cons, List.flatMap_cons, List.filter_append, List.map_append, ih (s + 1)]
      congr 1
      rw [hf c s]
      simp only [List.filter_map, List.map_map]
      exact List.map_congr_left fun x _ => he x s
  induction tg with
  | nil => rfl
  | cons g tg ih =>
    simp only [List.flatMap_cons, List.flatten_cons, List.flatMap_append, List.map_append]
    rw [one g 0, ih]

theorem m2lLevelTsm_cells (D : Nat) (periodic : Bool) (level : Nat) (tg sg : List Group) (inv : GroupsInv sg) :
    ((m2lLevelTsm D periodic level tg sg).flatMap elemsOfCall).Perm
      ((tg.flatten.flatMap fun c => (ilistCell D periodic level c 0).filter fun x => sg.flatten.contains x.src).map (elemM2L level)) :=
  (m2lLevelTsm_elems D periodic level tg sg inv).trans
    (.of_eq (perGroup_eq_perCell _ _ (ilistCell_tpos D periodic level) (fun _ _ => rfl) tg sg))

theorem m2lLevel_cells (D : Nat) (periodic : Bool) (level : Nat) (gs : List Group) (inv : GroupsInv gs) :
    ((m2lLevel D periodic level gs).flatMap elemsOfCall).Perm
      ((gs.flatten.flatMap fun c => (ilistCell D periodic level c 0).filter fun x => gs.flatten.contains x.src).map (elemM2L level)) :=
  (m2lLevel_elems D periodic level gs inv).trans
    (.of_eq (perGroup_eq_perCell _ _ (ilistCell_tpos D periodic level) (fun _ _ => rfl) gs gs))

theorem p2pAll_cells (D : Nat) (periodic : Bool) (H : Nat) (gs : List Group) (inv : GroupsInv gs) :
    ((p2pAll D periodic H gs).flatMap elemsOfCall).Perm
      (((gs.flatten.flatMap fun c => (nlistCell D periodic (H-1) c 0 true).filter fun x => gs.flatten.contains x.src).map elemP2P) ++
        gs.flatten.map Elem.p2pInner) := by
  refine ((p2pAll_elems D periodic H gs inv).trans (flatMap_append_perm _ _ _)).trans (.of_eq ?_)
  congr 1
  · rw [← List.map_flatMap]
    exact perGroup_eq_perCell _ _ (fun c k => nlistCell_tpos D periodic (H-1) c k true) (fun _ _ => rfl) gs gs
  · rw [List.map_flatten, List.flatMap_def]

theorem p2pAllTsm_cells (D : Nat) (periodic : Bool) (H : Nat) (tg sg : List Group) (inv : GroupsInv sg) :
    ((p2pAllTsm D periodic H tg sg).flatMap elemsOfCall).Perm
      ((tg.flatten.flatMap fun c => (nlistCell D periodic (H-1) c 0 false ++
          [({ tgt := c, src := c, tpos := 0, code := code3 (List.replicate D 0) } : Inter)]).filter
        fun x => sg.flatten.contains x.src).map elemP2PTsm) := by
  refine (p2pAllTsm_elems D periodic H tg sg inv).trans ?_
  rw [← perGroup_eq_perCell (fun c k => nlistCell D periodic (H-1) c k false ++
      [({ tgt := c, src := c, tpos := k, code := code3 (List.replicate D 0) } : Inter)]) elemP2PTsm
    (fun c k => by rw [nlistCell_tpos D periodic (H-1) c k false]; simp) (fun _ _ => rfl) tg sg]
  -- per group the self entries follow all the neighbour entries, per cell each follows the cell's own list
  refine List.Perm.map _ (flatMap_perm_of_forall fun g _ => List.Perm.filter _ ?_)
  rw [selfListBlock, List.map_eq_flatMap]
  exact (flatMap_append_perm _ _ _).symm

theorem linkCalls_elems (mk : Nat → List (Nat × Nat) → Call) (e : Nat → Nat → Nat → Elem)
    (hmk : ∀ p ch, elemsOfCall (mk p ch) = ch.map fun c => e p c.1 c.2) (D : Nat) (rs : List Run) :
    (rs.map fun r => mk r.1 (r.2.map fun c => (c, childCode D c))).flatMap elemsOfCall =
      (linksOf rs).map fun pc => e pc.1 pc.2 (childCode D pc.2) := by
  induction rs with
  | nil => rfl
  | cons r rs ih =>
    simp only [linksOf, List.flatMap_cons, List.map_append] at ih ⊢
    rw [List.map_cons, List.flatMap_cons, ih, hmk, List.map_map, List.map_map]
    rfl

theorem m2mLevel_elems (D level : Nat) (up lo : List Group) :
    (m2mLevel D level up lo).flatMap elemsOfCall = (linksOf (calls (parent D) up lo)).map fun pc => Elem.m2m level pc.1 pc.2 (childCode D pc.2) :=
  linkCalls_elems (Call.m2m level) (Elem.m2m level) (fun _ _ => rfl) D _

theorem l2lLevel_elems (D level : Nat) (up lo : List Group) :
    (l2lLevel D level up lo).flatMap elemsOfCall = (linksOf (calls (parent D) up lo)).map fun pc => Elem.l2l level pc.1 pc.2 (childCode D pc.2) :=
  linkCalls_elems (Call.l2l level) (Elem.l2l level) (fun _ _ => rfl) D _

theorem leafCalls_elems {pg : List PGroup} (mk : Nat → List Nat → Call) (me : Nat → Nat → Elem)
    (hmk : ∀ i ps, elemsOfCall (mk i ps) = [me i ps.length]) :
    (pg.flatMap fun g => g.map fun l => mk l.idx l.parts).flatMap elemsOfCall = pg.flatten.map fun l => me l.idx l.parts.length := by
  rw [flatMap_map_flatten]
  exact map_flatMap_elems _ _ fun l => hmk l.idx l.parts

theorem m2mLevel_form {D ℓ : Nat} {up lo : List Group} : ∀ c ∈ m2mLevel D ℓ up lo, ∃ p ch, c = Call.m2m ℓ p ch := by
  intro c hc
  simp only [m2mLevel, List.mem_map] at hc
  obtain ⟨r, _, rfl⟩ := hc
  exact ⟨_, _, rfl⟩

theorem l2lLevel_form {D ℓ : Nat} {up lo : List Group} : ∀ c ∈ l2lLevel D ℓ up lo, ∃ p ch, c = Call.l2l ℓ p ch := by
  intro c hc
  simp only [l2lLevel, List.mem_map] at hc
  obtain ⟨r, _, rfl⟩ := hc
  exact ⟨_, _, rfl⟩

theorem p2mAll_eq (t : Tree) (upper : Nat) :
    p2mAll t upper = if t.H > upper then t.pgroups.flatten.map fun l => Call.p2m l.idx l.parts else [] := by
  rw [p2mAll, flatMap_map_flatten]

theorem l2pAll_eq (t : Tree) (upper : Nat) :
    l2pAll t upper = if t.H > upper then t.pgroups.flatten.map fun l => Call.l2p l.idx l.parts else [] := by
  rw [l2pAll, flatMap_map_flatten]

theorem p2mAll_form {t : Tree} {upper : Nat} : ∀ c ∈ p2mAll t upper, ∃ l ∈ t.pgroups.flatten, c = Call.p2m l.idx l.parts := by
  intro c hc
  rw [p2mAll_eq] at hc
  split at hc
  · obtain ⟨l, hl, rfl⟩ := List.mem_map.1 hc
    exact ⟨l, hl, rfl⟩
  · simp at hc

theorem m2mAll_form {t : Tree} {upper : Nat} : ∀ c ∈ m2mAll t upper, ∃ l p ch, c = Call.m2m l p ch := by
  intro c hc
  obtain ⟨l, _, hc⟩ := List.mem_flatMap.1 hc
  exact ⟨l, m2mLevel_form c hc⟩

theorem m2lAll_form {t : Tree} {periodic : Bool} {upper : Nat} : ∀ c ∈ m2lAll t periodic upper, ∃ l tg srcs, c = Call.m2l l tg srcs := by
  intro c hc
  obtain ⟨l, _, hc⟩ := List.mem_flatMap.1 hc
  exact ⟨l, m2lLevel_form c hc⟩

theorem m2lAllTsm_form {tS tT : Tree} {periodic : Bool} {upper : Nat} :
    ∀ c ∈ m2lAllTsm tS tT periodic upper, ∃ l tg srcs, c = Call.m2l l tg srcs := by
  intro c hc
  obtain ⟨l, _, hc⟩ := List.mem_flatMap.1 hc
  exact ⟨l, m2lLevelTsm_form c hc⟩

theorem l2lAll_form {t : Tree} {upper : Nat} : ∀ c ∈ l2lAll t upper, ∃ l p ch, c = Call.l2l l p ch := by
  intro c hc
  obtain ⟨l, _, hc⟩ := List.mem_flatMap.1 hc
  exact ⟨l, l2lLevel_form c hc⟩

theorem l2pAll_form {t : Tree} {upper : Nat} : ∀ c ∈ l2pAll t upper, ∃ l ∈ t.pgroups.flatten, c = Call.l2p l.idx l.parts := by
  intro c hc
  rw [l2pAll_eq] at hc
  split at hc
  · obtain ⟨l, hl, rfl⟩ := List.mem_map.1 hc
    exact ⟨l, hl, rfl⟩
  · simp at hc

end Tbfmm
