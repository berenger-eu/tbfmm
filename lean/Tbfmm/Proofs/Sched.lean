/-! Any legal schedule of a task list has the same effect as the submission order. -/
namespace Tbfmm

variable {T S : Type}

def exec (run : T → S → S) (l : List T) (s : S) : S := l.foldl (fun s t => run t s) s

theorem exec_append (run : T → S → S) (l1 l2 : List T) (s : S) :
    exec run (l1 ++ l2) s = exec run l2 (exec run l1 s) := by
  simp [exec, List.foldl_append]

theorem exec_comm (run : T → S → S) (f : S → S) (l : List T) (h : ∀ b ∈ l, ∀ s, f (run b s) = run b (f s)) (s : S) :
    f (exec run l s) = exec run l (f s) := by
  induction l generalizing s with
  | nil => rfl
  | cons b l ih =>
    show f (exec run l (run b s)) = exec run l (run b (f s))
    rw [ih (fun x hx => h x (List.mem_cons_of_mem _ hx)), h b List.mem_cons_self]

theorem exec_map_sim {A B : Type} (abs : A → S) {step : A → B → A} {f : B → T} {run : T → S → S}
    (h : ∀ a b, abs (step a b) = run (f b) (abs a)) (bs : List B) (a : A) :
    abs (bs.foldl step a) = exec run (bs.map f) (abs a) := by
  induction bs generalizing a with
  | nil => rfl
  | cons b bs ih => exact (ih (step a b)).trans (congrArg (exec run (bs.map f)) (h a b))

/-- `Legal dep sub sched`: `sched` is obtained from `sub` by repeatedly picking a task all of whose
    predecessors in (what remains of) the submission order are independent of it -/
inductive Legal (dep : T → T → Prop) : List T → List T → Prop
  | nil : Legal dep [] []
  | pick (a : T) (l1 l2 sched : List T) :
      (∀ b ∈ l1, ¬ dep b a) → Legal dep (l1 ++ l2) sched → Legal dep (l1 ++ a :: l2) (a :: sched)

/-- the submission order is a legal schedule: the hypothesis `Legal … sched` can be met -/
theorem legal_refl {T : Type} (dep : T → T → Prop) (l : List T) : Legal dep l l := by
  induction l with
  | nil => exact Legal.nil
  | cons a l ih => exact Legal.pick a [] l l (by simp) ih

/-- commutation is asked of the submitted tasks only -/
theorem legal_exec_eq_on (run : T → S → S) (dep : T → T → Prop) {sub sched : List T} (h : Legal dep sub sched)
    (hcomm : ∀ a ∈ sub, ∀ b ∈ sub, ¬ dep b a → ∀ s, run a (run b s) = run b (run a s)) (s : S) :
    exec run sched s = exec run sub s := by
  induction h generalizing s with
  | nil => rfl
  | pick a l1 l2 sched hind _ ih =>
    have ha : a ∈ l1 ++ a :: l2 := List.mem_append_right _ List.mem_cons_self
    have hsub : ∀ x ∈ l1 ++ l2, x ∈ l1 ++ a :: l2 := fun x hx =>
      (List.mem_append.mp hx).elim (List.mem_append_left _) (fun h => List.mem_append_right _ (List.mem_cons_of_mem _ h))
    -- run `a` first, then move it behind `l1`, with whose tasks it commutes
    calc exec run (a :: sched) s
        = exec run (l1 ++ l2) (run a s) := ih (fun x hx y hy => hcomm x (hsub x hx) y (hsub y hy)) (run a s)
      _ = exec run l2 (exec run l1 (run a s)) := exec_append run l1 l2 (run a s)
      _ = exec run l2 (run a (exec run l1 s)) := by
          rw [exec_comm run (run a) l1 (fun b hb => hcomm a ha b (List.mem_append_left _ hb) (hind b hb))]
      _ = exec run (l1 ++ a :: l2) s := (exec_append run l1 (a :: l2) s).symm

theorem legal_exec_eq (run : T → S → S) (dep : T → T → Prop)
    (hcomm : ∀ a b s, ¬ dep b a → run a (run b s) = run b (run a s))
    {sub sched : List T} (h : Legal dep sub sched) (s : S) :
    exec run sched s = exec run sub s :=
  legal_exec_eq_on run dep h (fun a _ b _ hd s => hcomm a b s hd) s

end Tbfmm
