import Tbfmm.Proofs.Phases
import Tbfmm.Proofs.Refinement
import Tbfmm.Proofs.Particles
namespace Tbfmm

theorem p2pAll_isResult (D : Nat) (periodic : Bool) (H : Nat) (po : Nat → List Nat) (gs : List Group) :
    ∀ c ∈ p2pAll D periodic H gs, isResultCall po c := by
  intro c hc
  rcases p2pAll_form c hc with ⟨_, _, _, rfl⟩ | ⟨_, rfl⟩ <;> trivial

theorem p2pAllTsm_isResult (D : Nat) (periodic : Bool) (H : Nat) (po : Nat → List Nat) (tg sg : List Group) :
    ∀ c ∈ p2pAllTsm D periodic H tg sg, isResultCall po c := by
  intro c hc
  obtain ⟨_, _, _, rfl⟩ := p2pAllTsm_form c hc
  trivial

namespace BuiltFacts

variable {D H : Nat} {T : Tree} {ls : List Leaf} (F : BuiltFacts D H T ls)
include F

theorem partsOf_spec {lf : Leaf} (hl : lf ∈ ls) : T.partsOf lf.idx = lf.parts :=
  Tbfmm.partsOf_spec T (by rw [F.pg]; exact F.nodup) lf (by rw [F.pg]; exact hl)

theorem leaf_of {N : Nat} (hP : (ls.flatMap (·.parts)).Perm (List.range N)) (p : Nat) (hp : p < N) :
    ∃ a ∈ ls.map (·.idx), ∀ i ∈ ls.map (·.idx), (T.partsOf i).count p = if i = a then 1 else 0 := by
  obtain ⟨lfa, hlfa, hca⟩ := particle_unique ls F.nodup (hP.symm.nodup List.nodup_range) p (hP.symm.subset (List.mem_range.2 hp))
  refine ⟨lfa.idx, List.mem_map.2 ⟨lfa, hlfa, rfl⟩, ?_⟩
  intro i hi
  obtain ⟨lf, hl, rfl⟩ := List.mem_map.1 hi
  rw [F.partsOf_spec hl]; exact hca lf hl

theorem p2mAll_wf (upper : Nat) : ∀ c ∈ p2mAll T upper, ∃ leaf, c = .p2m leaf (T.partsOf leaf) := by
  intro c hc
  obtain ⟨l, hl, rfl⟩ := p2mAll_form c hc
  exact ⟨l.idx, by rw [F.partsOf_spec (F.pg ▸ hl)]⟩

theorem l2pAll_isResult (upper : Nat) : ∀ c ∈ l2pAll T upper, isResultCall T.partsOf c := by
  intro c hc
  obtain ⟨l, hl, rfl⟩ := l2pAll_form c hc
  exact (F.partsOf_spec (F.pg ▸ hl)).symm

theorem p2mAll_elems (upper : Nat) :
    (p2mAll T upper).flatMap elemsOfCall = if H > upper then (ls.map (·.idx)).map fun i => Elem.p2m i (T.partsOf i).length else [] :=
  F.leafPass_elems Call.p2m Elem.p2m (fun _ _ => rfl) _ (fun _ hl => by rw [F.partsOf_spec hl]) upper

theorem l2pAll_elems (upper : Nat) :
    (l2pAll T upper).flatMap elemsOfCall = if H > upper then (ls.map (·.idx)).map fun i => Elem.l2p i (T.partsOf i).length else [] :=
  F.leafPass_elems Call.l2p Elem.l2p (fun _ _ => rfl) _ (fun _ hl => by rw [F.partsOf_spec hl]) upper

/-- `m2lLevels H upper` written `List.range' u (L + 1 - u)` at `L := H - 1`, the spelling of `far_count` / `m2l_phase_eval` -/
theorem m2lAll_refines_range' (hH : 1 ≤ H) (periodic : Bool) (upper : Nat) :
    ((m2lAll T periodic upper).flatMap elemsOfCall).Perm ((List.range' upper (H - 1 + 1 - upper)).flatMap fun ℓ =>
      specM2LLevel D periodic ℓ (specCells D (H-1) (ls.map (·.idx)) ℓ) (specCells D (H-1) (ls.map (·.idx)) ℓ)) := by
  rw [Nat.sub_add_cancel hH, ← m2lLevels_eq]
  exact F.m2lAll_refines periodic upper

theorem l2pAll_append_results (upper : Nat) (P : List Call) (E : List Elem) (hP : ∀ c ∈ P, isResultCall T.partsOf c)
    (hE : (P.flatMap elemsOfCall).Perm E) :
    (∀ c ∈ l2pAll T upper ++ P, isResultCall T.partsOf c) ∧
    ((l2pAll T upper ++ P).flatMap elemsOfCall).Perm
      ((if decide (H > upper) then (ls.map (·.idx)).map (fun i => Elem.l2p i (T.partsOf i).length) else []) ++ E) := by
  refine ⟨fun c hc => (List.mem_append.1 hc).elim (F.l2pAll_isResult upper c) (hP c), ?_⟩
  rw [List.flatMap_append, F.l2pAll_elems]
  simp only [decide_eq_true_eq]
  exact hE.append_left _

theorem results_refines (hH : 1 ≤ H) (periodic : Bool) (upper : Nat) :
    (∀ c ∈ l2pAll T upper ++ p2pAll D periodic H T.leafGroups, isResultCall T.partsOf c) ∧
    ((l2pAll T upper ++ p2pAll D periodic H T.leafGroups).flatMap elemsOfCall).Perm
      ((if decide (H > upper) then (ls.map (·.idx)).map (fun i => Elem.l2p i (T.partsOf i).length) else []) ++
        (specP2P D periodic (H-1) (ls.map (·.idx)) ++ (ls.map (·.idx)).map Elem.p2pInner)) :=
  F.l2pAll_append_results upper _ _ (p2pAll_isResult D periodic H _ _) (F.p2pAll_refines hH periodic)

end BuiltFacts

section
variable {D H : Nat} {tS tT : Tree} {lsS lsT : List Leaf} (FS : BuiltFacts D H tS lsS) (FT : BuiltFacts D H tT lsT)
include FS FT

theorem m2lAllTsm_refines_range' (hH : 1 ≤ H) (periodic : Bool) (upper : Nat) :
    ((m2lAllTsm tS tT periodic upper).flatMap elemsOfCall).Perm ((List.range' upper (H - 1 + 1 - upper)).flatMap fun ℓ =>
      specM2LLevel D periodic ℓ (specCells D (H-1) (lsT.map (·.idx)) ℓ) (specCells D (H-1) (lsS.map (·.idx)) ℓ)) := by
  rw [Nat.sub_add_cancel hH, ← m2lLevels_eq]
  exact m2lAllTsm_refines FS FT periodic upper

theorem results_refines_tsm (hH : 1 ≤ H) (periodic : Bool) (upper : Nat) :
    (∀ c ∈ l2pAll tT upper ++ p2pAllTsm D periodic H tT.leafGroups tS.leafGroups, isResultCall tT.partsOf c) ∧
    ((l2pAll tT upper ++ p2pAllTsm D periodic H tT.leafGroups tS.leafGroups).flatMap elemsOfCall).Perm
      ((if decide (H > upper) then (lsT.map (·.idx)).map (fun i => Elem.l2p i (tT.partsOf i).length) else []) ++
        specP2PTsm D periodic (H-1) (lsT.map (·.idx)) (lsS.map (·.idx))) :=
  FT.l2pAll_append_results upper _ _ (p2pAllTsm_isResult D periodic H _ _ _) (p2pTsm_refines FS FT hH periodic)

end

end Tbfmm
