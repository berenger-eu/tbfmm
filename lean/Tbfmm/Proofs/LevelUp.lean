import Tbfmm.Proofs.Runs
namespace Tbfmm
variable (par : Nat → Nat)

/-- the keys `par c` of `cs` without adjacent repetitions, `prev` being the key before the first: `keysFrom none cs` is
    `dedupAdj (cs.map par)` (`keysFrom_none`) -/
def keysFrom (prev : Option Nat) : List Nat → List Nat
  | [] => []
  | c :: cs => if prev = some (par c) then keysFrom prev cs else par c :: keysFrom (some (par c)) cs

theorem keysFrom_some (q : Nat) (cs : List Nat) : q :: keysFrom par (some q) cs = dedupAdj (q :: cs.map par) := by
  induction cs generalizing q with
  | nil => rfl
  | cons c cs ih =>
    rw [keysFrom, List.map_cons, dedupAdj]
    by_cases h : q = par c
    · rw [if_pos (congrArg some h), if_pos h, ← ih, h]
    · rw [if_neg (fun e => h (Option.some.inj e)), if_neg h, ih]

theorem keysFrom_none (cs : List Nat) : keysFrom par none cs = dedupAdj (cs.map par) := by
  cases cs with
  | nil => rfl
  | cons c cs => rw [keysFrom, if_neg (fun e => nomatch e)]; exact keysFrom_some par (par c) cs

/-- key of the run in progress after the children `xs` -/
def lastKey (prev : Option Nat) (xs : List Nat) : Option Nat :=
  match xs.getLast? with
  | none => prev
  | some c => some (par c)

theorem lastKey_nil (prev : Option Nat) : lastKey par prev [] = prev := rfl

theorem lastKey_cons (prev : Option Nat) (c : Nat) (xs : List Nat) :
    lastKey par prev (c :: xs) = lastKey par (some (par c)) xs := by
  cases xs with
  | nil => rfl
  | cons x xs => simp only [lastKey, List.getLast?_cons_cons, List.getLast?_eq_some_getLast (List.cons_ne_nil x xs)]

theorem keysFrom_append (prev : Option Nat) (xs ys : List Nat) :
    keysFrom par prev (xs ++ ys) = keysFrom par prev xs ++ keysFrom par (lastKey par prev xs) ys := by
  induction xs generalizing prev with
  | nil => rfl
  | cons c xs ih =>
    simp only [List.cons_append, keysFrom, lastKey_cons]
    split
    · next h => rw [h]; exact ih _
    · rw [ih, List.cons_append]

theorem lastKey_eq (prev : Option Nat) (xs : List Nat) :
    lastKey par prev xs = (keysFrom par prev xs).getLast?.or prev := by
  induction xs generalizing prev with
  | nil => rfl
  | cons c xs ih =>
    rw [lastKey_cons, ih, keysFrom]
    split
    · next h => rw [h]
    · cases keysFrom par (some (par c)) xs with
      | nil => rfl
      | cons k ks => rw [List.getLast?_cons_cons]; rfl

theorem upFixed_flatten (bs : Nat) (cs : List Nat) (prev : Option Nat) (cur : List Nat) :
    (upFixedAux par bs cs prev cur).flatten = cur ++ keysFrom par prev cs := by
  fun_induction upFixedAux par bs cs prev cur with
  | case1 prev => rfl
  | case2 prev cur h => rfl
  | case3 c cs cur ih => rw [ih, keysFrom, if_pos rfl]
  | case4 c cs prev cur h cur' hlen ih => rw [List.flatten_cons, ih, keysFrom, if_neg h, List.nil_append]; exact List.append_assoc _ _ _
  | case5 c cs prev cur h cur' hlen ih => rw [ih, keysFrom, if_neg h]; exact List.append_assoc _ _ _

theorem levelUpFixed_flatten (bs : Nat) (lower : List Group) :
    (levelUpFixed par bs lower).flatten = keys (runsOf par lower.flatten) := by
  rw [levelUpFixed, upFixed_flatten, keys_runsOf, keysFrom_none, List.nil_append]

theorem upFixed_ne_nil (bs : Nat) (cs : List Nat) (prev : Option Nat) (cur : List Nat) :
    ∀ g ∈ upFixedAux par bs cs prev cur, g ≠ [] := by
  fun_induction upFixedAux par bs cs prev cur with
  | case1 prev => exact List.forall_mem_nil _
  | case2 prev cur h => exact List.forall_mem_cons.mpr ⟨h, List.forall_mem_nil _⟩
  | case3 c cs cur ih => exact ih
  | case4 c cs prev cur h cur' hlen ih => exact List.forall_mem_cons.mpr ⟨List.append_ne_nil_of_right_ne_nil _ (List.cons_ne_nil _ _), ih⟩
  | case5 c cs prev cur h cur' hlen ih => exact ih

theorem upFixed_size (bs : Nat) (hbs : 0 < bs) (cs : List Nat) (prev : Option Nat) (cur : List Nat)
    (hcur : cur.length < bs) : ∀ g ∈ upFixedAux par bs cs prev cur, g.length ≤ bs := by
  fun_induction upFixedAux par bs cs prev cur with
  | case1 prev => exact List.forall_mem_nil _
  | case2 prev cur h => exact List.forall_mem_cons.mpr ⟨Nat.le_of_lt hcur, List.forall_mem_nil _⟩
  | case3 c cs cur ih => exact ih hcur
  | case4 c cs prev cur h cur' hlen ih => exact List.forall_mem_cons.mpr ⟨Nat.le_of_eq hlen, ih hbs⟩
  | case5 c cs prev cur h cur' hlen ih =>
    refine ih (Nat.lt_of_le_of_ne ?_ hlen)
    rw [List.length_append]; exact hcur

theorem levelUpFixed_ne_nil (bs : Nat) (lower : List Group) : ∀ g ∈ levelUpFixed par bs lower, g ≠ [] :=
  upFixed_ne_nil par bs _ _ _

theorem levelUpFixed_size (bs : Nat) (hbs : 0 < bs) (lower : List Group) : ∀ g ∈ levelUpFixed par bs lower, g.length ≤ bs :=
  upFixed_size par bs hbs _ _ _ hbs

theorem keysFrom_some_eq_dropWhile (q : Nat) (g : List Nat) (hge : ∀ c ∈ g, q ≤ par c) :
    keysFrom par (some q) g = keysFrom par none (g.dropWhile fun c => decide (par c ≤ q)) := by
  induction g with
  | nil => rfl
  | cons c g ih =>
    have hc := hge c List.mem_cons_self
    by_cases h : par c ≤ q
    · rw [List.dropWhile_cons_of_pos (by simpa using h), ← ih (fun c' hc' => hge c' (List.mem_cons_of_mem _ hc')), keysFrom,
        if_pos (congrArg some (Nat.le_antisymm hc h))]
    · have hne : ¬ some q = some (par c) := fun e => h (Nat.le_of_eq (Option.some.inj e).symm)
      rw [List.dropWhile_cons_of_neg (by simpa using h)]
      simp [keysFrom, hne]

theorem parentsDedup_eq (cs cur : List Nat) :
    parentsDedup par cs cur = cur ++ keysFrom par cur.getLast? cs := by
  induction cs generalizing cur with
  | nil => simp [parentsDedup, keysFrom]
  | cons c cs ih =>
    simp only [parentsDedup, keysFrom]
    split
    · next h => rw [ih, h]
    · rw [ih]; simp

/-- the lambda folded by `levelUpPerGroup`, named -/
def perGroupStep (acc : List Group) (g : Group) : List Group :=
  let rest := match acc.getLast? with
    | none => g
    | some lastG => g.dropWhile (fun c => par c ≤ lastOf lastG)
  let ps := parentsDedup par rest []
  if ps = [] then acc else acc ++ [ps]

theorem levelUpPerGroup_eq_foldl (lower : List Group) : levelUpPerGroup par lower = lower.foldl (perGroupStep par) [] := rfl

theorem perGroupStep_flatten (acc : List Group) (g : Group) (hacc : ∀ g ∈ acc, g ≠ [])
    (hge : ∀ q, acc.flatten.getLast? = some q → ∀ c ∈ g, q ≤ par c) :
    (perGroupStep par acc g).flatten = acc.flatten ++ keysFrom par acc.flatten.getLast? g ∧
    ∀ g' ∈ perGroupStep par acc g, g' ≠ [] := by
  have hps : parentsDedup par (match acc.getLast? with
      | none => g
      | some lastG => g.dropWhile (fun c => par c ≤ lastOf lastG)) [] = keysFrom par acc.flatten.getLast? g := by
    rw [parentsDedup_eq]
    cases h : acc.getLast? with
    | none => rw [List.getLast?_eq_none_iff.mp h]; rfl
    | some lastG =>
      obtain ⟨ini, rfl⟩ := List.getLast?_eq_some_iff.mp h
      have hl := getLast?_eq_lastD lastG (hacc lastG List.mem_concat_self)
      have hq : (ini ++ [lastG]).flatten.getLast? = some (lastOf lastG) := by
        simp [List.getLast?_append, hl]
      rw [hq]
      exact (keysFrom_some_eq_dropWhile par _ g (hge _ hq)).symm
  unfold perGroupStep
  simp only [hps]
  split
  · next h => rw [h]; exact ⟨by simp, hacc⟩
  · next h =>
    refine ⟨by simp, ?_⟩
    intro g' hg'
    rcases List.mem_append.mp hg' with h' | h'
    · exact hacc g' h'
    · rw [List.mem_singleton.mp h']; exact h

theorem perGroupFold_flatten (rest acc : List Group) (hacc : ∀ g ∈ acc, g ≠ [])
    (hmono : rest.flatten.Pairwise (fun a b => par a ≤ par b))
    (hge : ∀ q, acc.flatten.getLast? = some q → ∀ c ∈ rest.flatten, q ≤ par c) :
    (rest.foldl (perGroupStep par) acc).flatten = acc.flatten ++ keysFrom par acc.flatten.getLast? rest.flatten ∧
    ∀ g ∈ rest.foldl (perGroupStep par) acc, g ≠ [] := by
  induction rest generalizing acc with
  | nil => exact ⟨(List.append_nil _).symm, hacc⟩
  | cons g rest ih =>
    rw [List.flatten_cons, List.pairwise_append] at hmono
    obtain ⟨h1, h2⟩ := perGroupStep_flatten par acc g hacc (fun q hq c hc => hge q hq c (by simp [hc]))
    have hlast : (perGroupStep par acc g).flatten.getLast? = lastKey par acc.flatten.getLast? g := by
      rw [h1, List.getLast?_append, lastKey_eq]
    rw [List.foldl_cons, List.flatten_cons, keysFrom_append, ← List.append_assoc, ← h1, ← hlast]
    refine ih _ h2 hmono.2.1 ?_
    intro q hq c hc
    rw [hlast, lastKey] at hq
    split at hq
    · exact hge q hq c (by simp [hc])      -- `g` is empty: the old bound
    · next c' hc' =>      -- `g` ends with `c'`: the later parents are `≥ par c'`
      rw [← Option.some.inj hq]
      exact hmono.2.2 c' (List.mem_of_getLast? hc') c hc

/-- the per-group strategy returns the distinct parents, cut into non-empty groups (`hne` is not needed) -/
theorem levelUpPerGroup_spec (lower : List Group) (hne : ∀ g ∈ lower, g ≠ [])
    (hmono : lower.flatten.Pairwise (fun a b => par a ≤ par b)) :
    (levelUpPerGroup par lower).flatten = keys (runsOf par lower.flatten) ∧ ∀ g ∈ levelUpPerGroup par lower, g ≠ [] := by
  rw [levelUpPerGroup_eq_foldl, keys_runsOf, ← keysFrom_none]
  exact perGroupFold_flatten par lower [] (List.forall_mem_nil _) hmono (fun _ hq => by simp at hq)

end Tbfmm
