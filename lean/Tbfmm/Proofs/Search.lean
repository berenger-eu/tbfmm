import Tbfmm.Model.Search
import Tbfmm.Proofs.Morton
import Tbfmm.Proofs.Runs
/-! C16: the binary searches of `Model/Search` over a sorted level and over its groups. -/
namespace Tbfmm

theorem lowerBoundIdx_boundary (lt : Nat → Bool) (fuel first count : Nat) (hf : count ≤ fuel) :
    first ≤ lowerBoundIdx lt fuel first count ∧ lowerBoundIdx lt fuel first count ≤ first + count ∧
      (first < lowerBoundIdx lt fuel first count → lt (lowerBoundIdx lt fuel first count - 1) = true) ∧
      (lowerBoundIdx lt fuel first count < first + count → lt (lowerBoundIdx lt fuel first count) = false) := by
  fun_induction lowerBoundIdx lt fuel first count with
  | case1 count first => exact ⟨Nat.le_refl _, Nat.le_add_right _ _, fun h => absurd h (Nat.lt_irrefl _), fun h => by omega⟩
  | case2 f first => exact ⟨Nat.le_refl _, Nat.le_add_right _ _, fun h => absurd h (Nat.lt_irrefl _), fun h => absurd h (Nat.lt_irrefl _)⟩
  | case3 f first count hc step it hlt ih =>
    -- `lt` holds at `it`: search `(it, first + count)`
    have hs : step < count := Nat.div_lt_self (Nat.pos_of_ne_zero hc) (by decide)
    have hit : it = first + step := rfl
    clear_value it step
    -- the right end of the interval stays
    have hend : it + 1 + (count - (step + 1)) = first + count := by omega
    obtain ⟨r1, r2, r3, r4⟩ := ih (by omega)
    generalize lowerBoundIdx lt f (it + 1) (count - (step + 1)) = r at *
    rw [hend] at r2 r4
    refine ⟨by omega, r2, fun _ => ?_, r4⟩
    rcases Nat.lt_or_eq_of_le r1 with h | h
    · exact r3 h
    · rw [← h]; exact hlt
  | case4 f first count hc step it hlt ih =>
    -- `lt` fails at `it`: search `[first, it)`
    have hs : step < count := Nat.div_lt_self (Nat.pos_of_ne_zero hc) (by decide)
    obtain ⟨r1, r2, r3, r4⟩ := ih (Nat.le_of_lt_succ (Nat.lt_of_lt_of_le hs hf))
    generalize lowerBoundIdx lt f first step = r at *
    refine ⟨r1, Nat.le_trans r2 (Nat.add_le_add_left (Nat.le_of_lt hs) first), r3, fun _ => ?_⟩
    rcases Nat.lt_or_eq_of_le r2 with h | h
    · exact r4 h
    · rw [h]; exact Bool.eq_false_iff.mpr hlt

/-- when `lt` holds on an initial part of the interval only, the result is where it stops holding -/
theorem lowerBoundIdx_spec (lt : Nat → Bool) (fuel first count : Nat) (hf : count ≤ fuel)
    (mono : ∀ a b, first ≤ a → a ≤ b → b < first + count → lt b = true → lt a = true) :
    first ≤ lowerBoundIdx lt fuel first count ∧ lowerBoundIdx lt fuel first count ≤ first + count ∧
      (∀ a, first ≤ a → a < lowerBoundIdx lt fuel first count → lt a = true) ∧
      (∀ a, lowerBoundIdx lt fuel first count ≤ a → a < first + count → lt a = false) := by
  obtain ⟨r1, r2, r3, r4⟩ := lowerBoundIdx_boundary lt fuel first count hf
  generalize lowerBoundIdx lt fuel first count = r at *
  refine ⟨r1, r2, fun a h1 h2 => ?_, fun a h1 h2 => ?_⟩
  · exact mono a (r - 1) h1 (Nat.le_sub_one_of_lt h2) (by omega) (r3 (Nat.lt_of_le_of_lt h1 h2))
  · exact Bool.eq_false_iff.mpr fun h => Bool.false_ne_true ((r4 (Nat.lt_of_le_of_lt h1 h2)).symm.trans (mono r a r1 h1 h2 h))

theorem lowerBound_key (key : Nat → Nat) (n x : Nat) (hs : ∀ i j, i < j → j < n → key i ≤ key j) :
    lowerBoundIdx (fun i => decide (key i < x)) n 0 n ≤ n ∧
      (∀ j, j < lowerBoundIdx (fun i => decide (key i < x)) n 0 n → key j < x) ∧
      (∀ j, lowerBoundIdx (fun i => decide (key i < x)) n 0 n ≤ j → j < n → x ≤ key j) := by
  obtain ⟨_, r2, r3, r4⟩ := lowerBoundIdx_spec (fun i => decide (key i < x)) n 0 n (Nat.le_refl _) (by
    intro a b _ hab hb h
    rcases Nat.lt_or_eq_of_le hab with h1 | rfl
    · exact decide_eq_true (Nat.lt_of_le_of_lt (hs a b h1 (by omega)) (of_decide_eq_true h))
    · exact h)
  refine ⟨by omega, fun j hj => of_decide_eq_true (r3 j (Nat.zero_le _) hj), fun j h1 h2 => ?_⟩
  exact Nat.le_of_not_lt (of_decide_eq_false (r4 j h1 (by omega)))

/-- **C16, lookup by parent index**: the lookup returns the *first* position whose cell has that parent, and nothing
    iff no cell of the group has it -/
theorem findByParent_spec (par : Nat → Nat) (cells : List Nat) (hs : (cells.map par).Pairwise (· ≤ ·)) (pidx : Nat) :
    (∀ k, findByParent par cells pidx = some k →
      k < cells.length ∧ par (cells.getD k 0) = pidx ∧ ∀ j, j < k → par (cells.getD j 0) < pidx) ∧
    (findByParent par cells pidx = none → ∀ c ∈ cells, par c ≠ pidx) := by
  have hs' : ∀ i j, i < j → j < cells.length → par (cells.getD i 0) ≤ par (cells.getD j 0) :=
    fun i j hij hj => (List.pairwise_map.mp hs).getD 0 hij hj
  obtain ⟨r1, r2, r3⟩ := lowerBound_key (fun i => par (cells.getD i 0)) cells.length pidx hs'
  unfold findByParent
  generalize lowerBoundIdx (fun i => decide (par (cells.getD i 0) < pidx)) cells.length 0 cells.length = k0 at *
  have notBelow : ∀ j, par (cells.getD j 0) = pidx → ¬ j < k0 := fun j e h => Nat.lt_irrefl pidx (e ▸ r2 j h)
  by_cases hk : k0 = cells.length
  · rw [if_pos hk]
    refine ⟨fun k h => (nomatch h), fun _ c hc e => ?_⟩
    obtain ⟨j, hj, rfl⟩ := exists_getD_of_mem hc 0
    exact notBelow j e (hk ▸ hj)
  · have hk0 : k0 < cells.length := Nat.lt_of_le_of_ne r1 hk
    rw [if_neg hk]
    by_cases he : par (cells.getD k0 0) = pidx
    · rw [if_neg (not_not_intro he)]
      refine ⟨fun k h => ?_, fun h => nomatch h⟩
      cases h
      exact ⟨hk0, he, r2⟩
    · rw [if_pos he]
      refine ⟨fun k h => (nomatch h), fun _ c hc e => ?_⟩
      obtain ⟨j, hj, rfl⟩ := exists_getD_of_mem hc 0
      -- otherwise `pidx ≤ par cells[k0] ≤ par cells[j] = pidx` with `k0 ≠ j`
      rcases Nat.lt_or_eq_of_le (Nat.le_of_not_lt (notBelow j e)) with h | rfl
      · exact he (Nat.le_antisymm (e ▸ hs' k0 j h hj) (r3 k0 (Nat.le_refl _) hk0))
      · exact he e

/-- `findCell` is `findByParent` for the identity map -/
theorem findCell_spec (cells : List Nat) (hs : cells.Pairwise (· < ·)) (idx : Nat) :
    (∀ k, findCell cells idx = some k → k < cells.length ∧ cells.getD k 0 = idx) ∧
    (findCell cells idx = none → idx ∉ cells) := by
  obtain ⟨h1, h2⟩ := findByParent_spec id cells (List.pairwise_map.mpr (hs.imp Nat.le_of_lt)) idx
  exact ⟨fun k hk => ⟨(h1 k hk).1, (h1 k hk).2.1⟩, fun hn hmem => h2 hn idx hmem rfl⟩

/-- the Morton parent map is monotone, so the parents of a sorted group are non-decreasing -/
theorem parents_sorted (D : Nat) (cells : List Nat) (hs : cells.Pairwise (· < ·)) :
    (cells.map (· >>> D)).Pairwise (· ≤ ·) := by
  rw [List.pairwise_map]
  simpa only [Nat.shiftRight_eq_div_pow, parent] using sorted_mono_par D cells hs

example : findByParent (· >>> 2) [4, 5, 9, 13] 2 = some 2 ∧ findByParent (· >>> 2) [4, 5, 9, 13] 0 = none := by decide

/-- **C16**: the lookup returns a handle iff the index exists on the level, and the handle designates that index -/
theorem C16_findGroup (groups : List Group) (hne : ∀ g ∈ groups, g ≠ []) (hs : groups.flatten.Pairwise (· < ·)) (idx : Nat) :
    (∀ g k, findGroup groups idx = some (g, k) → g < groups.length ∧ k < (groups.getD g []).length ∧ (groups.getD g []).getD k 0 = idx) ∧
    (findGroup groups idx = none → idx ∉ groups.flatten) := by
  have inv : GroupsInv groups := ⟨hne, hs⟩
  have hgs : ∀ i, i < groups.length → (groups.getD i []).Pairwise (· < ·) := fun i hi =>
    (List.pairwise_flatten.mp hs).1 _ (getD_mem groups [] hi)
  -- the groups' last elements increase, so the group is found by a lower bound on them
  obtain ⟨below, hbefore, hfrom⟩ := lowerBound_key (fun i => lastOf (groups.getD i [])) groups.length idx fun i j hij hj =>
    Nat.le_of_lt ((inv.bounds_of_mem (Nat.le_of_lt hij) hj (lastOf_mem _ (hne _ (getD_mem groups [] hj)))).2.1 hij)
  unfold findGroup
  dsimp only
  generalize lowerBoundIdx (fun i => decide (lastOf (groups.getD i []) < idx)) groups.length 0 groups.length = g0 at *
  constructor
  · intro g k hgk
    -- a handle comes out only when `g0` is a group, `idx` lies in its range and `findCell` finds it there
    by_cases hg : g0 = groups.length
    · rw [if_pos hg] at hgk; exact nomatch hgk
    · have hg0 : g0 < groups.length := Nat.lt_of_le_of_ne below hg
      rw [if_neg hg] at hgk
      by_cases hrange : firstOf (groups.getD g0 []) ≤ idx ∧ idx ≤ lastOf (groups.getD g0 [])
      · rw [if_pos hrange] at hgk
        cases hfc : findCell (groups.getD g0 []) idx with
        | none => rw [hfc] at hgk; exact nomatch hgk
        | some k' =>
          rw [hfc] at hgk
          cases hgk
          exact ⟨hg0, (findCell_spec _ (hgs g0 hg0) idx).1 _ hfc⟩
      · rw [if_neg hrange] at hgk; exact nomatch hgk
  · intro hnone hmem
    obtain ⟨grp, hgrp, hidx⟩ := List.mem_flatten.mp hmem
    obtain ⟨j, hj, rfl⟩ := exists_getD_of_mem hgrp []
    -- `idx` lies in group `j`: the groups before `j` end below it, group `j` does not
    obtain ⟨hfirst, -, hlast⟩ := inv.bounds_of_mem (Nat.le_refl j) hj hidx
    have h1 : g0 ≤ j := Nat.le_of_not_lt fun h => Nat.not_lt_of_le hlast (hbefore j h)
    have h2 : ¬ g0 < j := fun h =>
      Nat.not_lt_of_le (hfrom g0 (Nat.le_refl _) (Nat.lt_trans h hj)) ((inv.bounds_of_mem (Nat.le_of_lt h) hj hidx).2.1 h)
    obtain rfl : g0 = j := Nat.le_antisymm h1 (Nat.le_of_not_lt h2)
    rw [if_neg (Nat.ne_of_lt hj), if_pos ⟨hfirst, hlast⟩] at hnone
    cases hfc : findCell (groups.getD g0 []) idx with
    | none => exact (findCell_spec _ (hgs g0 hj) idx).2 hfc hidx
    | some k => rw [hfc] at hnone; exact nomatch hnone

end Tbfmm
