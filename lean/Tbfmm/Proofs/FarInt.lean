import Tbfmm.Proofs.Positions
/-! Halving keeps adjacent positions adjacent, so adjacency of the ancestors persists upwards and sets in at exactly one height.
Proved for integer coordinates (periodic images lie outside `[0, 2^L)`); natural ones are seen through `toI`. -/
namespace Tbfmm

theorem persists {P : Nat → Prop} (step : ∀ j, P j → P (j+1)) {i j : Nat} (hij : i ≤ j) (h : P i) : P j := by
  induction hij with
  | refl => exact h
  | step _ ih => exact step _ ih

theorem onset_unique {P : Nat → Prop} (step : ∀ j, P j → P (j+1)) {L : Nat} (h0 : ¬ P 0) (hL : P L) :
    ∃ k, (k + 1 ≤ L ∧ P (k+1) ∧ ¬ P k) ∧ ∀ k', P (k'+1) ∧ ¬ P k' → k' = k := by
  have ex : ∃ k, k + 1 ≤ L ∧ P (k+1) ∧ ¬ P k := by
    induction L with
    | zero => exact absurd hL h0
    | succ L ih =>
      by_cases h : P L
      · obtain ⟨k, hk, hP⟩ := ih h
        exact ⟨k, by omega, hP⟩
      · exact ⟨L, Nat.le_refl _, hL, h⟩
  obtain ⟨k, hk, h1, h2⟩ := ex
  refine ⟨k, ⟨hk, h1, h2⟩, fun k' ⟨h1', h2'⟩ => ?_⟩
  rcases Nat.lt_trichotomy k' k with h | h | h
  · exact absurd (persists step (by omega) h1') h2
  · exact h
  · exact absurd (persists step (by omega) h1) h2'

/-- `B` bounds the heights at which `P` and `Q` are known to agree, so the uniqueness of `P` is only among heights
    satisfying `B` -/
theorem onset_congr {B P Q : Nat → Prop} (h : ∀ k, B k → (P k ↔ Q k))
    (hQ : ∃ k, (B k ∧ Q k) ∧ ∀ k', Q k' → k' = k) : ∃ k, (B k ∧ P k) ∧ ∀ k', B k' → P k' → k' = k := by
  obtain ⟨k, ⟨hk, hq⟩, huniq⟩ := hQ
  exact ⟨k, ⟨hk, (h k hk).2 hq⟩, fun k' hk' hp => huniq k' ((h k' hk').1 hp)⟩

end Tbfmm

namespace Tbfmm.FarInt

/-- the "interaction" predicate at height `k`: parents adjacent, cells not -/
def interI (k : Nat) (a b : List Int) : Prop := adjV (upI (k+1) a) (upI (k+1) b) = true ∧ adjV (upI k a) (upI k b) = false

/-- **partition lemma (integer coordinates)**: two non-adjacent positions whose ancestors at height `L` are adjacent
    interact at exactly one height `k < L` -/
theorem far_unique_int (L : Nat) (a b : List Int)
    (htop : adjV (upI L a) (upI L b) = true) (hna : adjV a b = false) :
    ∃ k, (k + 1 ≤ L ∧ interI k a b) ∧ ∀ k', interI k' a b → k' = k := by
  simpa only [interI, Bool.not_eq_true] using
    onset_unique (adjV_upI_succ a b) (by simpa only [upI_zero, Bool.not_eq_true] using hna) htop

theorem near_none_int (a b : List Int) (h : adjV a b = true) (k : Nat) : ¬ interI k a b := by
  intro ⟨_, h2⟩
  have := persists (adjV_upI_succ a b) (Nat.zero_le k) (by simpa only [upI_zero] using h)
  rw [this] at h2
  exact Bool.noConfusion h2

theorem interI_toI (k : Nat) (a b : List Nat) : interI k (toI a) (toI b) ↔ Far.inter k a b := by
  simp only [interI, Far.inter, upI_toI, ← Bool.not_eq_true, adjV_toI]

end Tbfmm.FarInt

namespace Tbfmm.Far
open FarInt

theorem adj_of_lt_two : ∀ {a b : Vec}, a.length = b.length → (∀ x ∈ a, x < 2) → (∀ y ∈ b, y < 2) → adj a b
  | [], [], _, _, _ => trivial
  | x :: xs, y :: ys, hl, ha, hb => by
      refine ⟨?_, adj_of_lt_two (by simpa using hl) (fun z hz => ha z (List.mem_cons_of_mem _ hz))
        (fun z hz => hb z (List.mem_cons_of_mem _ hz))⟩
      have := ha x List.mem_cons_self; have := hb y List.mem_cons_self
      unfold adj1; omega
  | [], _ :: _, hl, _, _ => by simp at hl
  | _ :: _, [], hl, _, _ => by simp at hl

/-- **partition lemma**: two non-adjacent leaves at depth `L` interact at exactly one height `k`, and `k + 2 ≤ L`
    (a level `L - k ≥ 2`) -/
theorem far_unique (L : Nat) (a b : Vec) (hl : a.length = b.length)
    (ha : ∀ x ∈ a, x < 2^L) (hb : ∀ y ∈ b, y < 2^L) (hna : ¬ adj a b) :
    ∃ k, (k + 2 ≤ L ∧ inter k a b) ∧ ∀ k', inter k' a b → k' = k := by
  -- at level 1 (height `L-1`) there are two cells per dimension
  have lt2 : ∀ {v : Vec}, (∀ x ∈ v, x < 2^L) → ∀ y ∈ up (L-1) v, y < 2 := by
    intro v hv y hy
    obtain ⟨x, hx, rfl⟩ := List.mem_map.1 hy
    apply Nat.div_lt_of_lt_mul
    rw [← Nat.pow_succ]
    exact Nat.lt_of_lt_of_le (hv x hx) (Nat.pow_le_pow_right (by omega) (by omega))
  have htop : adjV (upI (L-1) (toI a)) (upI (L-1) (toI b)) = true := by
    rw [upI_toI, upI_toI, adjV_toI]
    exact adj_of_lt_two (by simp [up, hl]) (lt2 ha) (lt2 hb)
  obtain ⟨k, ⟨hk, hi⟩, huniq⟩ := far_unique_int (L-1) (toI a) (toI b) htop
    (by rwa [← Bool.not_eq_true, adjV_toI])
  exact ⟨k, ⟨by omega, (interI_toI k a b).1 hi⟩, fun k' h => huniq k' ((interI_toI k' a b).2 h)⟩

theorem near_none (a b : Vec) (h : adj a b) : ∀ k, ¬ inter k a b :=
  fun k hi => near_none_int _ _ ((adjV_toI a b).2 h) k ((interI_toI k a b).2 hi)

end Tbfmm.Far
