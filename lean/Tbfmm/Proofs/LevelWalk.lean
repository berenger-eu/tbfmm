import Tbfmm.Proofs.Runs
import Tbfmm.Proofs.ListLemmas
/-! `upward_links`: the two-cursor walk with sibling batching carries every (parent, child) link once.  `Matched`: the
correspondence between the remaining cells and the remaining children of the walk. -/
namespace Tbfmm
variable (par : Nat → Nat)

theorem linksOf_append (a b : List Run) : linksOf (a ++ b) = linksOf a ++ linksOf b := by
  simp [linksOf]

/-- `cell`: the parent of a remaining child is a remaining cell unless it lies before all of them; `child`: a remaining
    cell has a remaining child unless all remaining children lie after it.  The bounds keep `Matched` true when a prefix
    of either list is dropped (`dropCells`, `dropChildren`). -/
structure Matched (P C : List Nat) : Prop where
  sorted : P.Pairwise (· < ·)
  mono : C.Pairwise (fun a b => par a ≤ par b)
  cell : ∀ c ∈ C, ∀ u ∈ P, u ≤ par c → par c ∈ P
  child : ∀ u ∈ P, ∀ c ∈ C, par c ≤ u → ∃ c' ∈ C, par c' = u

section
variable {par}

theorem Matched.lt_of_prefix {X P C : List Nat} (h : Matched par (X ++ P) C) : ∀ a ∈ X, ∀ b ∈ P, a < b :=
  (List.pairwise_append.mp h.sorted).2.2

theorem Matched.par_le_of_prefix {P X C : List Nat} (h : Matched par P (X ++ C)) : ∀ a ∈ X, ∀ b ∈ C, par a ≤ par b :=
  (List.pairwise_append.mp h.mono).2.2

theorem Matched.dropCells {X P C : List Nat} (h : Matched par (X ++ P) C) : Matched par P C where
  sorted := (List.pairwise_append.mp h.sorted).2.1
  mono := h.mono
  cell c hc u hu hle := by
    rcases List.mem_append.mp (h.cell c hc u (List.mem_append_right _ hu) hle) with h' | h'
    · exact absurd hle (Nat.not_le_of_lt (h.lt_of_prefix _ h' u hu))
    · exact h'
  child u hu := h.child u (List.mem_append_right _ hu)

theorem Matched.dropChildren {P X C : List Nat} (h : Matched par P (X ++ C)) : Matched par P C where
  sorted := h.sorted
  mono := (List.pairwise_append.mp h.mono).2.1
  cell c hc := h.cell c (List.mem_append_right _ hc)
  child u hu c hc hle := by
    obtain ⟨c', hc', e⟩ := h.child u hu c (List.mem_append_right _ hc) hle
    rcases List.mem_append.mp hc' with h' | h'
    · exact ⟨c, hc, Nat.le_antisymm hle (e ▸ h.par_le_of_prefix _ h' c hc)⟩
    · exact ⟨c', h', e⟩

theorem filter_mem_append (l : List Nat) (hl : l.Pairwise (fun a b => par a ≤ par b)) (X Y : List Nat)
    (hXY : ∀ a ∈ X, ∀ b ∈ Y, a < b) :
    l.filter (fun c => decide (par c ∈ X ++ Y)) =
      l.filter (fun c => decide (par c ∈ X)) ++ l.filter (fun c => decide (par c ∈ Y)) := by
  rw [← filter_or_eq_append]
  · apply List.filter_congr; intro c _; simp [List.mem_append]
  · refine hl.imp ?_
    intro a b hab ⟨h1, h2⟩
    exact Nat.not_le_of_lt (hXY _ (of_decide_eq_true h2) _ (of_decide_eq_true h1)) hab
  · intro a _ ⟨h1, h2⟩
    exact Nat.lt_irrefl _ (hXY _ (of_decide_eq_true h1) _ (of_decide_eq_true h2))

theorem Matched.filter_after {U V Lw R : List Nat} (h : Matched par (U ++ V) (Lw ++ R)) (hU : U ≠ [])
    (hA : par (lastD Lw) ≤ lastD U) : Lw.filter (fun c => decide (par c ∈ V)) = [] := by
  simp only [List.filter_eq_nil_iff, decide_eq_true_eq]
  intro c hc hV
  exact Nat.not_le_of_lt (h.lt_of_prefix _ (lastD_mem U hU) _ hV)
    (Nat.le_trans (le_lastD_of_mono par Lw (List.pairwise_append.mp h.mono).1 c hc) hA)

theorem Matched.filter_before {U V C : List Nat} (h : Matched par (U ++ V) C) (R : List Nat)
    (hgt : ∀ c ∈ R, lastD U < par c) : R.filter (fun c => decide (par c ∈ U)) = [] := by
  simp only [List.filter_eq_nil_iff, decide_eq_true_eq]
  intro c hc hm
  exact Nat.not_le_of_lt (hgt c hc)
    (le_lastD_of_mono (fun u => u) U ((List.pairwise_append.mp h.sorted).1.imp Nat.le_of_lt) _ hm)
end

theorem sib2_links {V R : List Nat} (p : Nat) (ps acc cs : List Nat)
    (h : Matched par (p :: (ps ++ V)) (acc ++ (cs ++ R))) (hacc : ∀ a ∈ acc, par a = p) (hne : acc ≠ []) :
    linksOf (sib2 par (p :: ps) acc cs) = ((acc ++ cs).filter fun c => decide (par c ∈ p :: ps)).map (link par) := by
  have hfilter : ∀ {p : Nat} {ps acc : List Nat}, (∀ a ∈ acc, par a = p) →
      acc.filter (fun c => decide (par c ∈ p :: ps)) = acc :=
    fun hacc => List.filter_eq_self.mpr fun a ha => by simp [hacc a ha]
  have hlinks : ∀ {p : Nat} {acc : List Nat}, (∀ a ∈ acc, par a = p) → linksOf [(p, acc)] = acc.map (link par) := fun hacc => by
    rw [linksOf, List.flatMap_cons, List.flatMap_nil, List.append_nil]
    exact List.map_congr_left fun a ha => by rw [link, hacc a ha]
  induction cs generalizing p ps acc with
  | nil => rw [List.append_nil, hfilter hacc, sib2, hlinks hacc]
  | cons c2 cs ih =>
    simp only [sib2]
    obtain ⟨a0, ha0⟩ := List.exists_mem_of_ne_nil acc hne
    have hle : p ≤ par c2 := hacc a0 ha0 ▸ h.par_le_of_prefix a0 ha0 c2 List.mem_cons_self
    by_cases hc : par c2 = p
    · -- `c2` has the parent in hand: it joins the batch
      rw [if_neg (by simpa using hc), List.append_cons acc c2 cs]
      have h' : Matched par (p :: (ps ++ V)) ((acc ++ [c2]) ++ (cs ++ R)) := by
        rwa [List.append_assoc, List.singleton_append]
      refine ih p ps (acc ++ [c2]) h' ?_ (List.concat_ne_nil _ _)
      intro a ha
      rcases List.mem_append.mp ha with h' | h'
      · exact hacc a h'
      · rw [List.mem_singleton.mp h']; exact hc
    · -- `c2` has another parent: the batch is emitted; its links are the first part of both sides
      rw [if_pos (by simpa using hc), List.filter_append, hfilter hacc, List.map_append, ← List.singleton_append,
        linksOf_append, hlinks hacc]
      refine congrArg _ ?_
      have hlt : p < par c2 := Nat.lt_of_le_of_ne hle (Ne.symm hc)
      have hrest : ∀ c ∈ c2 :: cs, par c2 ≤ par c := fun c hc' =>
        head_le_of_mono par c2 _ h.dropChildren.mono c (List.mem_append_left R hc')
      have hnp : ∀ c ∈ c2 :: cs, par c ≠ p := fun c hc' => Nat.ne_of_gt (Nat.lt_of_lt_of_le hlt (hrest c hc'))
      cases ps with
      | nil =>
        symm
        simp only [linksOf, List.flatMap_nil, List.map_eq_nil_iff, List.filter_eq_nil_iff, decide_eq_true_eq, List.mem_singleton]
        exact hnp
      | cons p2 ps =>
        -- the next child opens the batch of the next cell: no cell and no child is skipped
        have hs := List.pairwise_cons.mp h.sorted
        have hc2 : par c2 = p2 := by
          refine Nat.le_antisymm ?_ ?_
          · -- `p2` has a child, which is not in the batch in hand
            obtain ⟨c', hc', e⟩ := h.child p2 (by simp) a0 (List.mem_append_left _ ha0)
              (hacc a0 ha0 ▸ Nat.le_of_lt (hs.1 p2 List.mem_cons_self))
            rcases List.mem_append.mp hc' with h'' | h''
            · exact absurd ((hacc c' h'').symm.trans e) (Nat.ne_of_lt (hs.1 p2 List.mem_cons_self))
            · exact e ▸ head_le_of_mono par c2 _ h.dropChildren.mono c' h''
          · -- `par c2` is a cell other than `p`
            rcases List.mem_cons.mp (h.cell c2 (by simp) p List.mem_cons_self hle) with h' | h'
            · exact absurd h' hc
            · exact head_le_of_mono (fun u => u) p2 _ (hs.2.imp Nat.le_of_lt) _ h'
        rw [ih p2 ps [c2] (h.dropCells (X := [p])).dropChildren (by simp [hc2]) (List.cons_ne_nil _ _)]
        refine congrArg _ (List.filter_congr fun c hc' => decide_eq_decide.mpr ?_)
        rw [List.mem_cons (a := par c) (b := p)]
        exact ⟨Or.inr, fun h' => h'.elim (fun e => absurd e (hnp c hc')) id⟩

/-- in the proof: both start lookups hit `start` exactly, the wrapper's two asserts -/
theorem wrapPure_links {V R : List Nat} (U Lw : Group) (hU : U ≠ []) (hLw : Lw ≠ [])
    (h : Matched par (U ++ V) (Lw ++ R)) :
    linksOf (wrapPure par Lw U) = (Lw.filter fun c => decide (par c ∈ U)).map (link par) := by
  obtain ⟨c0, Lt, rfl⟩ := List.exists_cons_of_ne_nil hLw
  obtain ⟨u0, Ut, rfl⟩ := List.exists_cons_of_ne_nil hU
  have hu0 : ∀ u ∈ u0 :: (Ut ++ V), u0 ≤ u := head_le_of_mono (fun u => u) u0 _ (h.sorted.imp Nat.le_of_lt)
  have hc0 : ∀ c ∈ c0 :: (Lt ++ R), par c0 ≤ par c := head_le_of_mono par c0 _ h.mono
  unfold wrapPure
  simp only
  generalize hstart : max (par c0) u0 = start
  obtain ⟨hsU, hsL⟩ : start ∈ u0 :: Ut ++ V ∧ ∃ c' ∈ c0 :: Lt ++ R, par c' = start := by
    rcases Nat.le_total (par c0) u0 with h' | h'
    · rw [← hstart, Nat.max_eq_right h']
      exact ⟨List.mem_cons_self, h.child u0 List.mem_cons_self c0 List.mem_cons_self h'⟩
    · rw [← hstart, Nat.max_eq_left h']
      exact ⟨h.cell c0 List.mem_cons_self u0 List.mem_cons_self h', c0, List.mem_cons_self, rfl⟩
  -- (`fun u => u` and not `id`: it reduces away, so that `generalize` below finds its term)
  obtain ⟨U0, hUs, hU0, hU'⟩ := dropWhile_lt_split (fun u => u) start (u0 :: Ut)
    ((List.pairwise_append.mp h.sorted).1.imp Nat.le_of_lt)
  obtain ⟨L0, hLs, hL0, hL'⟩ := dropWhile_lt_split par start (c0 :: Lt) (List.pairwise_append.mp h.mono).1
  generalize (u0 :: Ut).dropWhile (fun u => decide (u < start)) = U' at hUs hU' ⊢
  generalize (c0 :: Lt).dropWhile (fun c => decide (par c < start)) = L' at hLs hL' ⊢
  have h2 : Matched par (U' ++ V) (L' ++ R) := by
    rw [← hUs, ← hLs, List.append_assoc, List.append_assoc] at h
    exact h.dropCells.dropChildren
  -- a child of `Lw` with parent in `U` has its parent at or after `start`: it is in `L'`, its parent in `U'`
  have hfil : (c0 :: Lt).filter (fun c => decide (par c ∈ u0 :: Ut)) = L'.filter (fun c => decide (par c ∈ U')) := by
    rw [← hLs, List.filter_append, List.filter_eq_nil_iff.mpr, List.nil_append]
    · refine List.filter_congr fun c hc => decide_eq_decide.mpr ?_
      rw [← hUs, List.mem_append]
      exact ⟨fun h' => h'.resolve_left fun h0 => Nat.not_le_of_lt (hU0 _ h0) (hL' c hc), Or.inr⟩
    · intro c hc hm
      have hm : par c ∈ u0 :: Ut := of_decide_eq_true hm
      have hc' : c ∈ c0 :: (Lt ++ R) := by rw [← List.cons_append, ← hLs]; simp [hc]
      exact Nat.not_le_of_lt (hL0 c hc)
        (hstart ▸ Nat.max_le.mpr ⟨hc0 c hc', hu0 _ (List.mem_append_left V hm)⟩)
  rw [hfil]
  cases L' with
  | nil => cases U' <;> rfl
  | cons c cs =>
    cases U' with
    | nil => simp [linksOf]
    | cons p ps =>
      -- before `start` the keys are smaller, after it no smaller than the head's
      have hce : par c = start := by
        refine Nat.le_antisymm ?_ (hL' c List.mem_cons_self)
        obtain ⟨c', hc', e⟩ := hsL
        rw [← hLs, List.append_assoc] at hc'
        rcases List.mem_append.mp hc' with h' | h'
        · exact absurd e (Nat.ne_of_lt (hL0 c' h'))
        · exact e ▸ head_le_of_mono par c _ h2.mono c' h'
      have hpe : p = start := by
        refine Nat.le_antisymm ?_ (hU' p List.mem_cons_self)
        rw [← hUs, List.append_assoc] at hsU
        rcases List.mem_append.mp hsU with h' | h'
        · exact absurd rfl (Nat.ne_of_lt (hU0 _ h'))
        · exact head_le_of_mono (fun u => u) p _ (h2.sorted.imp Nat.le_of_lt) start h'
      exact sib2_links par p ps [c] cs h2 (by simp [hce, hpe]) (List.cons_ne_nil _ _)

theorem walk_nil_left (ls : List Group) : walk par [] ls = [] := by
  rw [walk]

theorem calls_nil_right (up : List Group) : calls par up [] = [] := by
  cases up <;> simp [calls, walk]

theorem calls_cons (U : Group) (us : List Group) (Lw : Group) (ls : List Group) (rest : List (Group × Group))
    (h : walk par (U :: us) (Lw :: ls) = (U, Lw) :: rest) :
    calls par (U :: us) (Lw :: ls) = wrapPure par Lw U ++ rest.flatMap (fun (x : Group × Group) => wrapPure par x.2 x.1) := by
  rw [calls, h, List.flatMap_cons]

theorem walk_links (up lo : List Group) : (∀ g ∈ up, g ≠ []) → (∀ g ∈ lo, g ≠ []) →
    Matched par up.flatten lo.flatten →
    linksOf (calls par up lo) = (lo.flatten.filter fun c => decide (par c ∈ up.flatten)).map (link par) := by
  induction up, lo using walk.induct par with
  | case1 lo =>
    intros
    rw [calls, walk_nil_left, List.flatten_nil, List.filter_eq_nil_iff.mpr fun c _ hc => nomatch (of_decide_eq_true hc : par c ∈ [])]
    rfl
  | case2 up h => intros; rw [calls_nil_right]; rfl
  | case3 U us Lw ih =>      -- one lower group left
    intro hup hlo h
    have hU := hup U List.mem_cons_self
    rw [calls_cons par U us Lw [] _ (by rw [walk]), linksOf_append, wrapPure_links par U Lw hU (hlo Lw List.mem_cons_self) h]
    have ih' := ih (fun g hg => hup g (List.mem_cons_of_mem _ hg)) hlo h.dropCells
    have hLV := h.filter_after hU
    simp only [List.flatten_cons, List.flatten_nil, List.append_nil] at h ih' ⊢
    rw [filter_mem_append Lw h.mono U us.flatten h.lt_of_prefix, List.map_append]
    refine congrArg _ ?_
    by_cases hA : par (lastD Lw) ≤ lastD U
    · rw [if_pos hA, hLV hA]; rfl      -- `Lw` ends within `U`: none of its children has its parent after `U`
    · rw [if_neg hA]; exact ih'
  | case4 U us Lw L2 ls ih1 ih2 ih3 =>
    intro hup hlo h
    have hU := hup U List.mem_cons_self
    have hLw := hlo Lw List.mem_cons_self
    have hus : ∀ g ∈ us, g ≠ [] := fun g hg => hup g (List.mem_cons_of_mem _ hg)
    have hls : ∀ g ∈ L2 :: ls, g ≠ [] := fun g hg => hlo g (List.mem_cons_of_mem _ hg)
    rw [calls_cons par U us Lw (L2 :: ls) _ (by rw [walk]), linksOf_append, wrapPure_links par U Lw hU hLw h]
    rw [List.flatten_cons (l := Lw), List.flatten_cons (l := U)] at h ⊢
    have hm := List.pairwise_append.mp h.mono
    -- both sides split into: children of `Lw` / of the later groups, with parent in `U` / after `U`
    rw [List.filter_append, List.map_append, filter_mem_append Lw hm.1 U us.flatten h.lt_of_prefix,
      filter_mem_append _ hm.2.1 U us.flatten h.lt_of_prefix]
    by_cases hA : par (lastD Lw) ≤ lastD U
    · -- `Lw` ends within `U`: none of its children has its parent after `U`
      rw [if_pos hA, h.filter_after hU hA, List.append_nil]
      refine congrArg _ ?_
      by_cases hA1 : lastD U < par (L2.headD 0)
      · -- the next group starts after `U`, and so do all later children
        obtain ⟨z, Z, rfl⟩ := List.exists_cons_of_ne_nil (hls L2 List.mem_cons_self)
        rw [if_pos hA1, h.filter_before ((z :: Z) :: ls).flatten fun c hc =>
          Nat.lt_of_lt_of_le hA1 (head_le_of_mono par z (Z ++ ls.flatten) hm.2.1 c hc), List.nil_append]
        exact ih1 hus hls h.dropCells.dropChildren
      · rw [if_neg hA1, ← filter_mem_append _ hm.2.1 U us.flatten h.lt_of_prefix]
        exact ih2 hup hls h.dropChildren
    · -- `Lw` reaches beyond `U`: no later child has its parent in `U`; the walk goes on with the next cells
      rw [if_neg hA, h.filter_before _ fun c hc => Nat.lt_of_lt_of_le (Nat.lt_of_not_le hA) (h.par_le_of_prefix _ (lastD_mem Lw hLw) c hc),
        List.nil_append, List.map_append, List.append_assoc, ← List.map_append, ← List.filter_append]
      refine congrArg _ ?_
      exact ih3 hus hlo h.dropCells

/-- `upward_links` without `lo ≠ []`, which `LevelInv` does not carry -/
theorem links_of_parents (up lo : List Group) (hup : ∀ g ∈ up, g ≠ []) (hlo : ∀ g ∈ lo, g ≠ [])
    (hparents : up.flatten = keys (runsOf par lo.flatten)) (hsorted : up.flatten.Pairwise (· < ·)) :
    linksOf (calls par up lo) = lo.flatten.map (link par) := by
  have hmem : ∀ c ∈ lo.flatten, par c ∈ up.flatten := fun c hc =>
    hparents ▸ (mem_keys_runsOf par _ _).mpr ⟨c, hc, rfl⟩
  rw [walk_links par up lo hup hlo ⟨hsorted, (keys_runsOf_sorted_iff par _).mp (hparents ▸ hsorted),
    fun c hc _ _ _ => hmem c hc, fun u hu _ _ _ => (mem_keys_runsOf par _ u).mp (hparents ▸ hu)⟩]
  exact congrArg _ (List.filter_eq_self.mpr fun c hc => decide_eq_true (hmem c hc))

/-- the kernel calls of the upward / downward pass of one level link every child to its parent exactly once, in
    child order, however the two levels are cut into groups (`hne` is not needed) -/
theorem upward_links (par : Nat → Nat) (up lo : List Group)
    (hup : ∀ g ∈ up, g ≠ []) (hlo : ∀ g ∈ lo, g ≠ []) (hne : lo ≠ [])
    (hparents : up.flatten = keys (runsOf par lo.flatten))
    (hsorted : up.flatten.Pairwise (· < ·)) :
    linksOf (calls par up lo) = lo.flatten.map (link par) :=
  links_of_parents par up lo hup hlo hparents hsorted

end Tbfmm
