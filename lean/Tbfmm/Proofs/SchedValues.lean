import Tbfmm.Proofs.TaskCommute
import Tbfmm.Proofs.Weighted
/-! Every kernel call of the model is an additive task of `TaskCommute`, whatever the partition `handleOf` of the slots
into buffers (one per group and kind in the library). -/
namespace Tbfmm

open Tbfmm.Tasks

/-- a value of the tree: a cell's multipole, a cell's local, a particle's result -/
inductive Slot
  | m (l i : Nat)
  | l (l i : Nat)
  | r (p : Nat)
deriving DecidableEq, Repr

def absSt (s : State) : St Slot
  | .m l i => s.m l i
  | .l l i => s.l l i
  | .r p => s.r p

theorem absSt_addM (s : State) (l i v : Nat) : absSt (s.addM l i v) = fun k => absSt s k + if k = Slot.m l i then v else 0 := by
  funext k
  cases k <;> simp [absSt, eq_comm]

theorem absSt_addL (s : State) (l i v : Nat) : absSt (s.addL l i v) = fun k => absSt s k + if k = Slot.l l i then v else 0 := by
  funext k
  cases k <;> simp [absSt, eq_comm]

theorem absSt_addR (s : State) (p v : Nat) : absSt (s.addR p v) = fun k => absSt s k + if k = Slot.r p then v else 0 := by
  funext k
  cases k <;> simp [absSt, eq_comm]

def constUpd (k : Slot) (v : Nat) : Upd Slot := ⟨k, [], fun _ => v, fun _ _ _ => rfl⟩

def copyUpd (k src : Slot) : Upd Slot := ⟨k, [src], fun st => st src, fun s s' h => h src (by simp)⟩

def sumUpd (k : Slot) (srcs : List Slot) : Upd Slot :=
  ⟨k, srcs, fun st => (srcs.map st).sum, fun s s' h => by
    congr 1
    exact List.map_congr_left h⟩

theorem sumUpd_apply_map {α : Type} (k : Slot) (f : α → Slot) (l : List α) (st : St Slot) :
    (sumUpd k (l.map f)).apply st = fun j => st j + if j = k then (l.map fun a => st (f a)).sum else 0 := by
  simp only [sumUpd, List.map_map]; rfl

section
variable (w : Nat → Nat) (L : Nat) (po po' : Nat → List Nat)

def updsOf : Call → List (Upd Slot)
  | .p2m leaf parts => [constUpd (.m L leaf) (sumW w parts)]
  | .m2m level p ch => [sumUpd (.m level p) (ch.map fun c => .m (level+1) c.1)]
  | .m2l level t srcs => [sumUpd (.l level t) (srcs.map fun c => .m level c.1)]
  | .l2l level p ch => ch.map fun c => copyUpd (.l (level+1) c.1) (.l level p)
  | .l2p leaf parts => parts.map fun q => copyUpd (.r q) (.l L leaf)
  | .p2p src tgt _ => ((po tgt).map fun q => constUpd (.r q) (sumW w (po src))) ++ ((po src).map fun q => constUpd (.r q) (sumW w (po tgt)))
  | .p2pTsm src tgt _ => (po tgt).map fun q => constUpd (.r q) (sumW w (po' src))
  | .p2pInner leaf => (po leaf).map fun q => constUpd (.r q) (sumW w (po leaf) - w q)

variable {Handle : Type} (handleOf : Slot → Handle)

/-- the task of a kernel call declares `commute` on the buffer of every slot it writes, `in` on that of every slot it reads -/
def taskOf (c : Call) : Task Slot Handle :=
  let us := updsOf w L po po' c
  ⟨(us.flatMap (·.reads)).map handleOf, us.map (fun u => handleOf u.w), us⟩

theorem taskOf_covered (c : Call) : (taskOf w L po po' handleOf c).covered handleOf := by
  intro u hu
  simp only [taskOf] at hu ⊢
  refine ⟨List.mem_map.2 ⟨u, hu, rfl⟩, ?_⟩
  intro r hr
  exact List.mem_map.2 ⟨r, List.mem_flatMap.2 ⟨u, hu, hr⟩, rfl⟩

/-- **one call = its task**: a call is a fold of additions to single values, each one of the task's updates -/
theorem run_taskOf (c : Call) (s : State) :
    absSt (applyCall w L po po' s c) = (taskOf w L po po' handleOf c).run (absSt s) := by
  have addR : ∀ (f : Nat → Nat) (ps : List Nat) (s : State),
      absSt (ps.foldl (fun s p => s.addR p (f p)) s) =
        exec (fun (u : Upd Slot) st => u.apply st) (ps.map fun q => constUpd (.r q) (f q)) (absSt s) :=
    fun f => exec_map_sim absSt (fun s p => absSt_addR s p (f p))
  rw [Task.run_eq_exec]
  cases c with
  | p2m leaf parts => exact absSt_addM s L leaf _
  | m2m level p ch =>
    show absSt (s.addM level p _) = (sumUpd (.m level p) (ch.map fun c => .m (level + 1) c.1)).apply (absSt s)
    rw [absSt_addM, sumUpd_apply_map]; rfl
  | m2l level t srcs =>
    show absSt (s.addL level t _) = (sumUpd (.l level t) (srcs.map fun c => .m level c.1)).apply (absSt s)
    rw [absSt_addL, sumUpd_apply_map]; rfl
  | l2l level p ch => exact exec_map_sim absSt (fun s c => absSt_addL s (level + 1) c.1 _) ch s
  | l2p leaf parts => exact exec_map_sim absSt (fun s q => absSt_addR s q _) parts s
  | p2p src tgt code =>
    show absSt ((po src).foldl _ ((po tgt).foldl _ s)) = exec _ (_ ++ _) (absSt s)
    rw [addR, addR, exec_append]
  | p2pTsm src tgt code => exact addR _ _ s
  | p2pInner leaf => exact addR _ _ s

theorem runs_taskOf (cs : List Call) (s : State) :
    absSt (applyCalls w L po po' s cs) = exec (fun t st => Task.run t st) (cs.map (taskOf w L po po' handleOf)) (absSt s) :=
  exec_map_sim absSt (fun s c => run_taskOf w L po po' handleOf c s) cs s

/-- **C03, model level, any buffers**: every schedule of the calls' tasks that respects the declared dependences leaves
    the values the call list leaves when applied in order -/
theorem C03_schedule_values (cs : List Call) (sched : List (Task Slot Handle))
    (hl : Legal depMutex (cs.map (taskOf w L po po' handleOf)) sched) (s : State) :
    exec (fun t st => Task.run t st) sched (absSt s) = absSt (applyCalls w L po po' s cs) := by
  rw [runs_taskOf w L po po' handleOf cs s]
  apply C03_legal_schedule_eq handleOf _ _ _ hl
  intro t ht
  obtain ⟨c, _, rfl⟩ := List.mem_map.1 ht
  exact taskOf_covered w L po po' handleOf c

end

/-- a schedule that is not the submission order: the P2M tasks of two leaves may run in either order -/
example (w : Nat → Nat) (po : Nat → List Nat) :
    Legal depMutex ([Call.p2m 0 [0], Call.p2m 1 [1]].map (taskOf w 2 po po (fun k : Slot => k)))
      ([Call.p2m 1 [1], Call.p2m 0 [0]].map (taskOf w 2 po po (fun k : Slot => k))) := by
  refine Legal.pick _ [_] [] _ ?_ (legal_refl _ _)
  intro b hb
  simp only [List.mem_singleton] at hb
  subst hb
  rintro ⟨h, hh | hh⟩ <;> simp [taskOf, updsOf, constUpd] at hh

/-- **C03**: on a built tree, for any buffers, under every schedule of the OpenMP executor's tasks that respects their
    declared dependences each particle ends with the sum of the other particles' weights -/
theorem C03_values_any_schedule {Handle : Type} (handleOf : Slot → Handle) (D H bs : Nat) (mode : Bool) (leafIdx : List Nat) (upper : Nat)
    (hbs : 0 < bs) (hne : leafIdx ≠ []) (hH : 1 ≤ H) (hlt : ∀ i ∈ leafIdx, i < 2^(D*(H-1))) (hu : upper ≤ 2)
    (w : Nat → Nat) (sched : List (Task Slot Handle))
    (hl : Legal depMutex ((executeOmp (Tree.build D H bs mode leafIdx) false 63 upper).map
      (taskOf w (H-1) (Tree.build D H bs mode leafIdx).partsOf (Tree.build D H bs mode leafIdx).partsOf handleOf)) sched)
    (p : Nat) (hp : p < leafIdx.length) :
    exec (fun t st => Task.run t st) sched (absSt {}) (.r p) =
      sumOver (List.range leafIdx.length) (fun q => if p = q then 0 else w q) := by
  rw [C03_schedule_values w (H-1) _ _ handleOf _ sched hl {}]
  exact C03_omp_values D H bs mode leafIdx upper hbs hne hH hlt hu w p hp

/-- the same for the target/source OpenMP executor: every target ends with the total source weight -/
theorem C09_values_any_schedule {Handle : Type} (handleOf : Slot → Handle) (D H bsS bsT : Nat) (modeS modeT : Bool) (srcIdx tgtIdx : List Nat) (upper : Nat)
    (hbsS : 0 < bsS) (hbsT : 0 < bsT) (hneS : srcIdx ≠ []) (hneT : tgtIdx ≠ []) (hH : 1 ≤ H)
    (hltS : ∀ i ∈ srcIdx, i < 2^(D*(H-1))) (hltT : ∀ i ∈ tgtIdx, i < 2^(D*(H-1))) (hu : upper ≤ 2)
    (w : Nat → Nat) (sched : List (Task Slot Handle))
    (hl : Legal depMutex ((executeTsm (Tree.build D H bsS modeS srcIdx) (Tree.build D H bsT modeT tgtIdx) false 63 upper true).map
      (taskOf w (H-1) (Tree.build D H bsT modeT tgtIdx).partsOf (Tree.build D H bsS modeS srcIdx).partsOf handleOf)) sched)
    (p : Nat) (hp : p < tgtIdx.length) :
    exec (fun t st => Task.run t st) sched (absSt {}) (.r p) = sumOver (List.range srcIdx.length) w := by
  rw [C03_schedule_values w (H-1) _ _ handleOf _ sched hl {}]
  exact C09_omp_values D H bsS bsT modeS modeT srcIdx tgtIdx upper hbsS hbsT hneS hneT hH hltS hltT hu w p hp

end Tbfmm
