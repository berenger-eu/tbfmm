namespace Tbfmm

def sumOver {α} (xs : List α) (f : α → Nat) : Nat := (xs.map f).sum

theorem sumOver_nil {α} (f : α → Nat) : sumOver ([] : List α) f = 0 := rfl
theorem sumOver_cons {α} (x : α) (xs : List α) (f : α → Nat) : sumOver (x :: xs) f = f x + sumOver xs f := rfl
theorem sumOver_append {α} (xs ys : List α) (f : α → Nat) : sumOver (xs ++ ys) f = sumOver xs f + sumOver ys f := by
  simp [sumOver]
theorem sumOver_map {α β} (xs : List α) (g : α → β) (f : β → Nat) : sumOver (xs.map g) f = sumOver xs (f ∘ g) := by
  simp [sumOver, List.map_map]
theorem sumOver_flatMap {α β} (xs : List α) (g : α → List β) (f : β → Nat) :
    sumOver (xs.flatMap g) f = sumOver xs (fun x => sumOver (g x) f) := by
  induction xs with
  | nil => rfl
  | cons x xs ih => rw [List.flatMap_cons, sumOver_append, ih]; rfl
theorem sumOver_filterMap {α β} (xs : List α) (f : α → Option β) (g : β → Nat) :
    sumOver (xs.filterMap f) g = sumOver xs (fun x => match f x with | some y => g y | none => 0) := by
  induction xs with
  | nil => rfl
  | cons x xs ih =>
    rw [List.filterMap_cons, sumOver_cons]
    cases h : f x with
    | none => simp [ih]
    | some y => simp [sumOver_cons, ih]

theorem sumOver_perm {α} {xs ys : List α} (f : α → Nat) (h : xs.Perm ys) : sumOver xs f = sumOver ys f :=
  (h.map f).sum_nat
theorem sumOver_congr {α} {xs : List α} {f g : α → Nat} (h : ∀ x ∈ xs, f x = g x) : sumOver xs f = sumOver xs g := by
  unfold sumOver
  rw [List.map_congr_left h]
theorem sumOver_zero {α} {xs : List α} {f : α → Nat} (h : ∀ x ∈ xs, f x = 0) : sumOver xs f = 0 :=
  List.sum_eq_zero_iff_forall_eq_nat.2 (List.forall_mem_map.2 h)

theorem sumOver_add {α} (xs : List α) (f g : α → Nat) : sumOver xs (fun x => f x + g x) = sumOver xs f + sumOver xs g := by
  induction xs with
  | nil => rfl
  | cons x xs ih => simp only [sumOver_cons, ih]; omega
theorem sumOver_mul_left {α} (xs : List α) (f : α → Nat) (v : Nat) : sumOver xs (fun x => v * f x) = v * sumOver xs f := by
  induction xs with
  | nil => rfl
  | cons x xs ih => simp only [sumOver_cons, ih, Nat.mul_add]
theorem sumOver_mul_right {α} (xs : List α) (f : α → Nat) (v : Nat) : sumOver xs (fun x => f x * v) = sumOver xs f * v := by
  induction xs with
  | nil => simp [sumOver]
  | cons x xs ih => simp only [sumOver_cons, ih, Nat.add_mul]
theorem sumOver_lin {α} {xs : List α} {f f1 f2 : α → Nat} {a b : Nat} (h : ∀ x ∈ xs, f x = a * f1 x + b * f2 x) :
    sumOver xs f = a * sumOver xs f1 + b * sumOver xs f2 := by
  rw [sumOver_congr h, sumOver_add, sumOver_mul_left, sumOver_mul_left]
theorem sumOver_ite {α} (xs : List α) (c : Prop) [Decidable c] (f : α → Nat) :
    sumOver xs (fun x => if c then f x else 0) = if c then sumOver xs f else 0 := by
  split
  · rfl
  · exact sumOver_zero (fun _ _ => rfl)
theorem sumOver_comm {α β} (xs : List α) (ys : List β) (f : α → β → Nat) :
    sumOver xs (fun x => sumOver ys (f x)) = sumOver ys (fun y => sumOver xs (fun x => f x y)) := by
  induction xs with
  | nil => exact (sumOver_zero (fun _ _ => rfl)).symm
  | cons x xs ih => simp only [sumOver_cons, ih, sumOver_add]

/-- (the instance deciding membership is an argument: the lemma is used with more than one) -/
theorem sumOver_single {α} [DecidableEq α] {xs : List α} (hn : xs.Nodup) (x0 : α) {f : α → Nat}
    (h : ∀ x ∈ xs, x ≠ x0 → f x = 0) [Decidable (x0 ∈ xs)] : sumOver xs f = if x0 ∈ xs then f x0 else 0 := by
  split
  next hm =>
    rw [sumOver_perm f (List.perm_cons_erase hm), sumOver_cons, sumOver_zero, Nat.add_zero]
    intro x hx
    obtain ⟨hne, hx⟩ := hn.mem_erase_iff.1 hx
    exact h x hx hne
  next hm => exact sumOver_zero (fun x hx => h x hx (fun e => hm (e ▸ hx)))

theorem sumOver_at {α} [DecidableEq α] {xs : List α} (hn : xs.Nodup) {a : α} (ha : a ∈ xs) {c : α → Nat}
    (hc : ∀ x ∈ xs, c x = if x = a then 1 else 0) (g : α → Nat) : sumOver xs (fun x => c x * g x) = g a := by
  rw [sumOver_single hn a (fun x hx hne => by rw [hc x hx, if_neg hne, Nat.zero_mul]), if_pos ha, hc a ha, if_pos rfl, Nat.one_mul]

theorem sumOver_pair {α β} [DecidableEq α] [DecidableEq β] {xs : List α} {ys : List β} (hx : xs.Nodup) (hy : ys.Nodup)
    (x0 : α) (y0 : β) {f : α → β → Nat} (h : ∀ x ∈ xs, ∀ y ∈ ys, ¬ (x = x0 ∧ y = y0) → f x y = 0) :
    sumOver xs (fun x => sumOver ys (f x)) = if x0 ∈ xs ∧ y0 ∈ ys then f x0 y0 else 0 := by
  rw [sumOver_single hx x0]
  · by_cases h1 : x0 ∈ xs
    · rw [if_pos h1, sumOver_single hy y0 (fun y hy' hne => h x0 h1 y hy' (fun e => hne e.2))]
      simp only [h1, true_and]
    · rw [if_neg h1, if_neg (fun e => h1 e.1)]
  · intro x hx' hne
    exact sumOver_zero (fun y hy' => h x hx' y hy' (fun e => hne e.1))

theorem sumOver_pair_ind {α β} [DecidableEq α] [DecidableEq β] {xs : List α} {ys : List β} (hx : xs.Nodup) (hy : ys.Nodup)
    (x0 : α) (y0 : β) (f : α → β → Nat) :
    sumOver xs (fun x => sumOver ys (fun y => f x y * ((if x = x0 then 1 else 0) * (if y = y0 then 1 else 0)))) =
      if x0 ∈ xs ∧ y0 ∈ ys then f x0 y0 else 0 := by
  rw [sumOver_pair hx hy x0 y0, if_pos rfl, if_pos rfl, Nat.mul_one]
  intro x _ y _ hne
  by_cases h1 : x = x0
  · rw [if_neg (fun h2 => hne ⟨h1, h2⟩), Nat.mul_zero, Nat.mul_zero]
  · rw [if_neg h1, Nat.zero_mul, Nat.mul_zero]

theorem sumOver_compl {α} (xs : List α) (c : α → Prop) [DecidablePred c] :
    sumOver xs (fun x => if c x then 0 else 1) + sumOver xs (fun x => if c x then 1 else 0) = xs.length := by
  induction xs with
  | nil => rfl
  | cons x xs ih =>
    simp only [sumOver_cons, List.length_cons]
    split <;> omega

theorem sumOver_involution {α} {xs : List α} (hn : xs.Nodup) (g : α → α) (hg : ∀ x, g (g x) = x) (hmem : ∀ x ∈ xs, g x ∈ xs)
    (f : α → Nat) : sumOver xs f = sumOver xs (fun x => f (g x)) := by
  have hperm : (xs.map g).Perm xs := by
    apply (List.perm_ext_iff_of_nodup _ hn).2
    · intro y
      rw [List.mem_map]
      exact ⟨fun ⟨x, hx, e⟩ => e ▸ hmem x hx, fun hy => ⟨g y, hmem y hy, hg y⟩⟩
    · rw [List.Nodup, List.pairwise_map]
      refine hn.imp (fun hne e => hne ?_)
      have := congrArg g e
      rwa [hg, hg] at this
  rw [← sumOver_perm f hperm, sumOver_map]
  rfl

end Tbfmm
