import Tbfmm.Model.Morton
import Tbfmm.Proofs.ListLemmas
namespace Tbfmm

/-- the positional code with digits `x + o` in base `B`, most significant first: `code7` is `codeB 7 3`, `code3` is `codeB 3 1` -/
def codeB (B : Nat) (o : Int) (v : List Int) : Int := v.foldl (fun acc x => acc * B + (x + o)) 0

theorem codeB_concat (B : Nat) (o : Int) (v : List Int) (x : Int) : codeB B o (v ++ [x]) = codeB B o v * B + (x + o) := by
  simp [codeB, List.foldl_append]

theorem code7_eq (v : List Int) : code7 v = (codeB 7 3 v).toNat := rfl
theorem code3_eq (v : List Int) : code3 v = (codeB 3 1 v).toNat := rfl

theorem codeB_range (B : Nat) (o : Int) (v : List Int) (hv : ∀ x ∈ v, 0 ≤ x + o ∧ x + o < B) :
    0 ≤ codeB B o v ∧ codeB B o v < (B : Int) ^ v.length := by
  induction v using snoc_induction with
  | nil => simp [codeB]
  | snoc v x ih =>
    have hx := hv x List.mem_concat_self
    obtain ⟨h0, h1⟩ := ih (fun y hy => hv y (List.mem_append_left _ hy))
    rw [codeB_concat, List.length_append, List.length_singleton, Int.pow_succ]
    have := Int.mul_nonneg h0 (Int.natCast_nonneg B)
    have := Int.mul_le_mul_of_nonneg_right (show codeB B o v + 1 ≤ (B : Int) ^ v.length by omega) (Int.natCast_nonneg B)
    rw [Int.add_mul] at this
    omega

theorem codeB_neg (B : Nat) (o : Int) (hB : (B : Int) = 2 * o + 1) (v : List Int) :
    codeB B o v + codeB B o (v.map (- ·)) = (B : Int) ^ v.length - 1 := by
  induction v using snoc_induction with
  | nil => simp [codeB]
  | snoc v x ih =>
    rw [List.map_append, List.map_singleton, codeB_concat, codeB_concat, List.length_append, List.length_singleton,
      Int.pow_succ]
    have := congrArg (· * (B : Int)) ih
    simp only [Int.add_mul, Int.sub_mul] at this
    omega

def decodeB (B : Nat) (o : Int) : (D : Nat) → Nat → List Int
  | 0, _ => []
  | D+1, c => decodeB B o D (c / B) ++ [((c % B : Nat) : Int) - o]

theorem decode7_eq (D c : Nat) : decode7 D c = decodeB 7 3 D c := by
  induction D generalizing c with
  | zero => rfl
  | succ D ih => simp [decode7, decodeB, ih]

theorem decode3_eq (D c : Nat) : decode3 D c = decodeB 3 1 D c := by
  induction D generalizing c with
  | zero => rfl
  | succ D ih => simp [decode3, decodeB, ih]

theorem decodeB_codeB (B : Nat) (o : Int) (v : List Int) (hv : ∀ x ∈ v, 0 ≤ x + o ∧ x + o < B) :
    decodeB B o v.length (codeB B o v).toNat = v := by
  induction v using snoc_induction with
  | nil => rfl
  | snoc v x ih =>
    have hv' := fun y hy => hv y (List.mem_append_left _ hy)
    -- the code of `v` is a natural number `n`, the last digit `x + o` a natural number `d < B`
    obtain ⟨n, hn⟩ := Int.eq_ofNat_of_zero_le (codeB_range B o v hv').1
    obtain ⟨d, hd⟩ := Int.eq_ofNat_of_zero_le (hv x List.mem_concat_self).1
    have hdB : d < B := by have := (hv x List.mem_concat_self).2; omega
    have ih' : decodeB B o v.length n = v := by
      have := ih hv'
      rwa [hn, Int.toNat_natCast] at this
    -- so the code of `v ++ [x]` is `B * n + d`: quotient `n`, remainder `d`
    have hcode : (codeB B o (v ++ [x])).toNat = B * n + d := by
      rw [codeB_concat, hn, hd, ← Int.natCast_mul, ← Int.natCast_add, Int.toNat_natCast, Nat.mul_comm]
    have hdiv : (B * n + d) / B = n := by
      rw [Nat.mul_add_div (Nat.zero_lt_of_lt hdB), Nat.div_eq_of_lt hdB, Nat.add_zero]
    have hmod : (B * n + d) % B = d := by rw [Nat.mul_add_mod, Nat.mod_eq_of_lt hdB]
    rw [List.length_append, List.length_singleton, decodeB, hcode, hdiv, hmod, ih', ← hd, Int.add_sub_cancel]

/-- C02/C11: the base-7 position code of a transfer decodes to the relative offset it was built from -/
theorem decode7_code7 (v : List Int) (hv : ∀ x ∈ v, -3 ≤ x ∧ x ≤ 3) : decode7 v.length (code7 v) = v := by
  rw [decode7_eq, code7_eq]
  exact decodeB_codeB 7 3 v (fun x hx => by have := hv x hx; omega)

/-- C02/C11: likewise the base-3 position code of a direct interaction -/
theorem decode3_code3 (v : List Int) (hv : ∀ x ∈ v, -1 ≤ x ∧ x ≤ 1) : decode3 v.length (code3 v) = v := by
  rw [decode3_eq, code3_eq]
  exact decodeB_codeB 3 1 v (fun x hx => by have := hv x hx; omega)

/-- the code stays below `7^D` (the library's `assert(arrayPos < lipow(7, Dim))`) -/
theorem code7_lt (v : List Int) (hv : ∀ x ∈ v, -3 ≤ x ∧ x ≤ 3) : (code7 v : Int) < 7 ^ v.length := by
  rw [code7_eq]
  obtain ⟨h0, h1⟩ := codeB_range 7 3 v (fun x hx => by have := hv x hx; omega)
  rw [Int.toNat_of_nonneg h0]; exact_mod_cast h1

example : decode7 3 (code7 [2, -3, 0]) = [2, -3, 0] := by decide

theorem code3_neg (v : List Int) (hv : ∀ x ∈ v, -1 ≤ x ∧ x ≤ 1) : code3 v + code3 (v.map (- ·)) + 1 = 3 ^ v.length := by
  have r1 := codeB_range 3 1 v (fun x hx => by have := hv x hx; omega)
  have r2 := codeB_range 3 1 (v.map (- ·)) (fun x hx => by
    obtain ⟨y, hy, rfl⟩ := List.mem_map.1 hx
    have := hv y hy; omega)
  have hs := codeB_neg 3 1 rfl v
  rw [← Int.toNat_of_nonneg r1.1, ← Int.toNat_of_nonneg r2.1] at hs
  rw [code3_eq, code3_eq]
  refine Int.natCast_inj.mp ?_
  rw [Int.natCast_add, Int.natCast_add, hs, Int.natCast_pow]
  exact Int.sub_add_cancel _ _

theorem code3_inj (v w : List Int) (hl : v.length = w.length) (hv : ∀ x ∈ v, -1 ≤ x ∧ x ≤ 1) (hw : ∀ x ∈ w, -1 ≤ x ∧ x ≤ 1)
    (h : code3 v = code3 w) : v = w := by
  rw [← decode3_code3 v hv, ← decode3_code3 w hw, hl, h]

/-- of a non-zero offset in `[-1,1]^D` and its opposite, exactly one has its base-3 code in the upper half -/
theorem upper_half_flip (D : Nat) (off : List Int) (hl : off.length = D) (hv : ∀ x ∈ off, -1 ≤ x ∧ x ≤ 1)
    (hnz : off ≠ List.replicate D 0) :
    ((3^D)/2 < code3 off) ↔ ¬ ((3^D)/2 < code3 (off.map (- ·))) := by
  have h0 : ∀ x ∈ List.replicate D (0:Int), -1 ≤ x ∧ x ≤ 1 := fun x hx => by
    have := List.eq_of_mem_replicate hx; omega
  -- the zero offset sits in the middle
  have hz := code3_neg (List.replicate D 0) h0
  have hs := code3_neg off hv
  have hne : code3 off ≠ code3 (List.replicate D 0) := fun e => hnz (code3_inj off _ (by simp [hl]) hv h0 e)
  simp only [List.map_replicate, Int.neg_zero, List.length_replicate, hl] at hz hs
  omega

end Tbfmm
