import Tbfmm.Proofs.Runs
import Tbfmm.Model.Exec
namespace Tbfmm

/-- the source of `x` exists in one of the groups `ig, ig+1, …` -/
def presentFrom (gs : List Group) (ig : Nat) (x : Inter) : Bool := (gs.drop ig).any fun g => g.contains x.src

theorem presentFrom_iff (gs : List Group) (ig : Nat) (x : Inter) :
    presentFrom gs ig x = true ↔ ∃ j, ig ≤ j ∧ j < gs.length ∧ x.src ∈ gs.getD j [] := by
  simp only [presentFrom, List.any_eq_true, List.contains_iff_mem, List.mem_iff_getElem? (l := gs.drop ig), List.getElem?_drop]
  constructor
  · rintro ⟨g, ⟨k, hk⟩, hx⟩
    exact ⟨ig + k, Nat.le_add_right _ _, (List.getElem?_eq_some_iff.mp hk).1, by rwa [List.getD_eq_getElem?_getD, hk]⟩
  · rintro ⟨j, h1, h2, hx⟩
    refine ⟨gs.getD j [], ⟨j - ig, ?_⟩, hx⟩
    rw [Nat.add_sub_cancel' h1, List.getD_eq_getElem?_getD, List.getElem?_eq_getElem h2]; rfl

theorem presentFrom_zero (gs : List Group) (x : Inter) : presentFrom gs 0 x = gs.flatten.contains x.src := by
  rw [Bool.eq_iff_iff, presentFrom, List.drop_zero, List.any_eq_true, List.contains_iff_mem, List.mem_flatten]
  simp only [List.contains_iff_mem]

theorem GroupsInv.absent_of_lt_first {gs : List Group} (inv : GroupsInv gs) {ig : Nat} {x : Inter}
    (h : x.src < firstOf (gs.getD ig [])) : presentFrom gs ig x = false := by
  rw [Bool.eq_false_iff, Ne, presentFrom_iff]
  rintro ⟨j, h1, h2, hx⟩
  exact Nat.lt_irrefl _ (Nat.lt_of_lt_of_le h (inv.bounds_of_mem h1 h2 hx).1)

theorem GroupsInv.presentFrom_skip {gs : List Group} (inv : GroupsInv gs) {ig j : Nat} {x : Inter} (hij : ig ≤ j)
    (h : ∀ k, ig ≤ k → k < j → k < gs.length → lastOf (gs.getD k []) < x.src) : presentFrom gs ig x = presentFrom gs j x := by
  rw [Bool.eq_iff_iff, presentFrom_iff, presentFrom_iff]
  constructor
  · rintro ⟨k, hk1, hk2, hx⟩
    refine ⟨k, Nat.le_of_not_lt fun hk => ?_, hk2, hx⟩
    exact Nat.lt_irrefl _ (Nat.lt_of_lt_of_le (h k hk1 hk hk2) (inv.bounds_of_mem (Nat.le_refl k) hk2 hx).2.2)
  · rintro ⟨k, hk1, hk2, hx⟩
    exact ⟨k, Nat.le_trans hij hk1, hk2, hx⟩

theorem GroupsInv.presentFrom_of_le_last {gs : List Group} (inv : GroupsInv gs) {ig : Nat} (hig : ig < gs.length) {x : Inter}
    (h : x.src ≤ lastOf (gs.getD ig [])) : presentFrom gs ig x = (gs.getD ig []).contains x.src := by
  rw [Bool.eq_iff_iff, presentFrom_iff, List.contains_iff_mem]
  constructor
  · rintro ⟨k, hk1, hk2, hx⟩
    rcases Nat.lt_or_eq_of_le hk1 with hk | rfl
    · exact absurd ((inv.bounds_of_mem hk1 hk2 hx).2.1 hk) (Nat.not_lt_of_le h)
    · exact hx
  · exact fun h => ⟨ig, Nat.le_refl _, hig, h⟩

theorem presentFrom_length (gs : List Group) (x : Inter) : presentFrom gs gs.length x = false := by
  rw [presentFrom, List.drop_length]; rfl

theorem GroupsInv.filter_skip {gs : List Group} (inv : GroupsInv gs) {ig j : Nat} (hij : ig ≤ j) {x : Inter} {tail : List Inter}
    (hs : (x :: tail).Pairwise (fun a b => a.src ≤ b.src))
    (hend : ∀ k, ig ≤ k → k < j → k < gs.length → lastOf (gs.getD k []) < x.src) :
    (x :: tail).filter (presentFrom gs ig) = (x :: tail).filter (presentFrom gs j) :=
  List.filter_congr fun y hy => inv.presentFrom_skip hij fun k hk1 hk2 hk3 =>
    Nat.lt_of_lt_of_le (hend k hk1 hk2 hk3) (head_le_of_mono (fun a => a.src) x tail hs y hy)

/-- `h` is the negated predicate of the `find?` in `mapIdx`, as `find?_range_eq_none` / `_eq_some` deliver it -/
theorem skipTest_false {gs : List Group} {ig k : Nat} {x : Inter} (hk : ig ≤ k)
    (h : (!(decide (ig ≤ k) && !decide (lastOf (gs.getD k []) < x.src))) = true) : lastOf (gs.getD k []) < x.src := by
  simpa [hk] using h

/-- the slices handed out from group `ig` on, each filtered by its group's existence test, are the entries whose source
    exists in one of these groups, in order -/
theorem mapIdx_filter (gs : List Group) (inv : GroupsInv gs) :
    ∀ (fuel : Nat) (xs : List Inter) (ig : Nat), xs.length + (gs.length - ig) < fuel →
      xs.Pairwise (fun a b => a.src ≤ b.src) →
      (mapIdx gs fuel xs ig).flatMap (fun p => p.2.filter fun x => (gs.getD p.1 []).contains x.src) = xs.filter (presentFrom gs ig) := by
  intro fuel xs ig
  -- the lower bound on the start of group `ig` skips entries that are in no group from `ig` on
  have hdrop : ∀ (xs : List Inter) (ig : Nat), xs.filter (presentFrom gs ig) =
      (xs.dropWhile fun x => decide (x.src < firstOf (gs.getD ig []))).filter (presentFrom gs ig) := fun xs ig =>
    filter_dropWhile_of_imp _ _ xs fun y _ hy => inv.absent_of_lt_first (of_decide_eq_true hy)
  fun_induction mapIdx gs fuel xs ig with
  | case1 => intro h; exact absurd h (Nat.not_lt_zero _)                         -- no fuel
  | case2 f xs ig h => intros; rw [List.isEmpty_iff.mp h]; rfl                    -- no entry left
  | case3 f xs ig _ hig =>                                                        -- no group left
    intros
    refine (List.filter_eq_nil_iff.mpr fun y _ hp => ?_).symm
    obtain ⟨j, h1, h2, -⟩ := (presentFrom_iff gs ig y).mp hp
    exact Nat.lt_irrefl _ (Nat.lt_of_lt_of_le h2 (Nat.le_trans hig h1))
  | case4 f xs ig _ _ g xs1 h1 =>                                                 -- all entries lie before group `ig`
    intros; rw [hdrop, show List.dropWhile _ xs = xs1 from rfl, h1]; rfl
  | case5 f xs ig _ hig g xs1 x tail h1 hlast hfind =>
    -- the head `x` of what is left lies after group `ig`, and after every later group: nothing is present
    intro _ hs
    have hs1 : (x :: tail).Pairwise (fun a b => a.src ≤ b.src) := h1 ▸ hs.sublist (List.dropWhile_sublist _)
    rw [hdrop, show List.dropWhile _ xs = xs1 from rfl, h1,
      inv.filter_skip (Nat.le_of_not_le hig) hs1 fun k hk1 _ hk2 => skipTest_false hk1 (List.find?_range_eq_none.mp hfind k hk2)]
    exact (List.filter_eq_nil_iff.mpr fun y _ hp => Bool.false_ne_true ((presentFrom_length gs y).symm.trans hp)).symm
  | case6 f xs ig _ _ g xs1 x tail h1 hlast j hfind ih =>
    -- `x` lies after group `ig`; `j` is the first later group that does not end before `x`: go on there
    intro hfuel hs
    have hs1 : xs1.Pairwise (fun a b => a.src ≤ b.src) := hs.sublist (List.dropWhile_sublist _)
    obtain ⟨hpj, hjr, hmin⟩ := List.find?_range_eq_some.mp hfind
    simp only [Bool.and_eq_true, decide_eq_true_eq, Bool.not_eq_true', decide_eq_false_iff_not, List.mem_range] at hpj hjr
    have hjgt : ig < j := Nat.lt_of_le_of_ne hpj.1 fun e => hpj.2 (e ▸ hlast)
    -- fewer groups are left
    have hmeasure : xs1.length + (gs.length - j) < f :=
      Nat.lt_of_lt_of_le (Nat.add_lt_add_of_le_of_lt (List.dropWhile_sublist _).length_le
        (Nat.sub_lt_sub_left (Nat.lt_trans hjgt hjr) hjgt)) (Nat.le_of_lt_succ hfuel)
    rw [ih hmeasure hs1, hdrop xs ig, show List.dropWhile _ xs = xs1 from rfl, h1]
    exact (inv.filter_skip (Nat.le_of_lt hjgt) (h1 ▸ hs1) fun k hk1 hk _ => skipTest_false hk1 (hmin k hk)).symm
  | case7 f xs ig _ hig g xs1 x tail h1 hlast slice ih =>
    -- `x` lies within the range of group `ig`: the entries up to the group's end are its slice
    intro hfuel hs
    have hs1 : xs1.Pairwise (fun a b => a.src ≤ b.src) := hs.sublist (List.dropWhile_sublist _)
    have hsplit : slice ++ xs1.dropWhile (fun y => decide (y.src ≤ lastOf g)) = xs1 := List.takeWhile_append_dropWhile
    -- the head of the list goes into the slice: fewer entries are left
    have hrest : (xs1.dropWhile fun y => decide (y.src ≤ lastOf g)).length < xs1.length := by
      rw [h1, List.dropWhile_cons_of_pos (p := fun y : Inter => decide (y.src ≤ lastOf g)) (decide_eq_true (Nat.le_of_not_lt hlast))]
      exact Nat.lt_succ_of_le (List.dropWhile_sublist _).length_le
    have hmeasure : (xs1.dropWhile fun y => decide (y.src ≤ lastOf g)).length + (gs.length - ig) < f :=
      Nat.lt_of_lt_of_le (Nat.add_lt_add_right (Nat.lt_of_lt_of_le hrest (List.dropWhile_sublist _).length_le) _)
        (Nat.le_of_lt_succ hfuel)
    rw [List.flatMap_cons, ih hmeasure (hs1.sublist (List.dropWhile_sublist _)), hdrop xs ig, show List.dropWhile _ xs = xs1 from rfl]
    conv => rhs; rw [← hsplit, List.filter_append]
    congr 1
    -- within the slice, presence from `ig` on is presence in group `ig`
    exact List.filter_congr fun y hy => (inv.presentFrom_of_le_last (Nat.lt_of_not_le hig)
      (of_decide_eq_true (List.all_eq_true.mp List.all_takeWhile y hy))).symm

theorem srcFirst_le_iff (a b : Inter) : (!srcFirst b a) = true ↔ a.src < b.src ∨ a.src = b.src ∧ a.tgt ≤ b.tgt := by
  simp only [srcFirst, Bool.not_eq_true', Bool.or_eq_false_iff, Bool.and_eq_false_iff, decide_eq_false_iff_not, beq_eq_false_iff_ne, ne_eq]
  omega

theorem sortInter_sorted (xs : List Inter) : (sortInter xs).Pairwise (fun a b => a.src ≤ b.src) := by
  have := List.pairwise_mergeSort (le := fun (a b : Inter) => !srcFirst b a)
    (fun a b c h1 h2 => by rw [srcFirst_le_iff] at *; omega)
    (fun a b => by rw [Bool.or_eq_true, srcFirst_le_iff, srcFirst_le_iff]; omega) xs
  exact this.imp fun h => by rw [srcFirst_le_iff] at h; omega

theorem sortInter_perm (xs : List Inter) : (sortInter xs).Perm xs := List.mergeSort_perm _ _

/-- `TbfMapIndexesAndBlocks` + the wrappers' existence filter keep exactly the entries whose source exists in some
    group (as a multiset) -/
theorem mapIndexesAndBlocks_filter (gs : List Group) (inv : GroupsInv gs) (xs : List Inter) :
    ((mapIndexesAndBlocks gs xs).flatMap fun p => p.2.filter fun x => (gs.getD p.1 []).contains x.src).Perm (xs.filter (presentFrom gs 0)) := by
  unfold mapIndexesAndBlocks
  split
  · next h =>
    refine .of_eq (List.filter_eq_nil_iff.mpr fun x hx hp => ?_).symm
    rcases (Bool.or_eq_true _ _).mp h with h1 | h1
    · rw [List.isEmpty_iff.mp h1] at hx; exact nomatch hx
    · rw [List.isEmpty_iff.mp h1] at hp; exact Bool.false_ne_true ((presentFrom_length [] x).symm.trans hp)
  · rw [mapIdx_filter gs inv _ (sortInter xs) 0 (by simp) (sortInter_sorted xs)]
    exact (sortInter_perm xs).filter _

theorem slices_elems (f : Group → List Inter → List Call) {e : Inter → Elem}
    (hf : ∀ g sl, (f g sl).flatMap elemsOfCall = (sl.filter fun x => g.contains x.src).map e)
    (sg : List Group) (inv : GroupsInv sg) {xs : List Inter} :
    (((mapIndexesAndBlocks sg xs).flatMap fun p => f (sg.getD p.1 []) p.2).flatMap elemsOfCall).Perm
      ((xs.filter (presentFrom sg 0)).map e) := by
  refine .trans (.of_eq ?_) ((mapIndexesAndBlocks_filter sg inv xs).map e)
  rw [List.flatMap_assoc, List.map_flatMap]
  exact flatMap_congr_left fun p _ => hf _ _

end Tbfmm
