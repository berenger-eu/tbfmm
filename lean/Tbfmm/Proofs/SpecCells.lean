import Tbfmm.Spec.Fmm
import Tbfmm.Proofs.ListLemmas
namespace Tbfmm

theorem mem_dedupAdj (xs : List Nat) (a : Nat) : a ∈ dedupAdj xs ↔ a ∈ xs := by
  induction xs using dedupAdj.induct with
  | case1 => simp [dedupAdj]
  | case2 x => simp [dedupAdj]
  | case3 x l ih =>
    rw [dedupAdj, if_pos rfl, ih]
    simp
  | case4 x y l hne ih =>
    rw [dedupAdj, if_neg hne]
    simp only [List.mem_cons] at ih ⊢
    rw [ih]

theorem dedupAdj_sorted (xs : List Nat) (h : xs.Pairwise (· ≤ ·)) : (dedupAdj xs).Pairwise (· < ·) := by
  induction xs using dedupAdj.induct with
  | case1 => simp [dedupAdj]
  | case2 x => simp [dedupAdj]
  | case3 x l ih =>
    rw [dedupAdj, if_pos rfl]
    exact ih (List.pairwise_cons.mp h).2
  | case4 x y l hne ih =>
    rw [dedupAdj, if_neg hne]
    have hh := List.pairwise_cons.mp h
    refine List.pairwise_cons.mpr ⟨?_, ih hh.2⟩
    intro a ha
    rw [mem_dedupAdj] at ha
    have h1 := hh.1 y List.mem_cons_self
    have h2 : y ≤ a := by
      simp only [List.mem_cons] at ha
      rcases ha with rfl | ha
      · exact Nat.le_refl _
      · exact (List.pairwise_cons.mp hh.2).1 a ha
    omega

theorem sorted_of_dedupAdj_sorted (xs : List Nat) (h : (dedupAdj xs).Pairwise (· < ·)) : xs.Pairwise (· ≤ ·) := by
  induction xs using dedupAdj.induct with
  | case1 => exact .nil
  | case2 x => exact List.pairwise_singleton _ _
  | case3 x l ih =>
    rw [dedupAdj, if_pos rfl] at h
    have ih := ih h
    exact List.pairwise_cons.mpr ⟨head_le_of_mono (fun u => u) x l ih, ih⟩
  | case4 x y l hne ih =>
    rw [dedupAdj, if_neg hne] at h
    obtain ⟨hx, h⟩ := List.pairwise_cons.mp h
    exact List.pairwise_cons.mpr ⟨fun a ha => Nat.le_of_lt (hx a ((mem_dedupAdj _ a).mpr ha)), ih h⟩

theorem mem_sortDedup (xs : List Nat) (a : Nat) : a ∈ sortDedup xs ↔ a ∈ xs := by
  unfold sortDedup
  rw [mem_dedupAdj, List.mem_mergeSort]

theorem sortDedup_sorted (xs : List Nat) : (sortDedup xs).Pairwise (· < ·) :=
  dedupAdj_sorted _ (pairwise_mergeSort_key id xs)

theorem sortDedup_of_sorted (xs : List Nat) (h : xs.Pairwise (· < ·)) : sortDedup xs = xs :=
  strict_sorted_ext _ _ (sortDedup_sorted xs) h (mem_sortDedup xs)

/-- ancestor at level `ℓ` of a leaf index (leaf level `L`) -/
def anc (D L ℓ x : Nat) : Nat := x / 2^(D*(L-ℓ))

theorem anc_leaf (D L x : Nat) : anc D L L x = x := by simp [anc]

theorem anc_add (D ℓ j x : Nat) : anc D (ℓ + j) ℓ x = x / 2^(D*j) := by rw [anc, Nat.add_sub_cancel_left]

theorem anc_sub (D L k x : Nat) (hk : k ≤ L) : anc D L (L - k) x = x / 2^(D*k) := by rw [anc, Nat.sub_sub_self hk]

theorem parent_anc (D L ℓ x : Nat) (h : ℓ + 1 ≤ L) : parent D (anc D L (ℓ+1) x) = anc D L ℓ x := by
  unfold parent anc
  rw [Nat.div_div_eq_div_mul, ← Nat.pow_add]
  congr 2
  have : L - ℓ = (L - (ℓ+1)) + 1 := sub_eq_sub_succ_add_one h
  rw [this, Nat.mul_succ]

theorem mem_specCells (D L : Nat) (leaves : List Nat) (l c : Nat) :
    c ∈ specCells D L leaves l ↔ ∃ i ∈ leaves, i / 2^(D * (L - l)) = c := by
  rw [specCells, mem_sortDedup, List.mem_map]

theorem specCells_anc (D L : Nat) (leaves : List Nat) {x : Nat} (hx : x ∈ leaves) (ℓ : Nat) :
    anc D L ℓ x ∈ specCells D L leaves ℓ :=
  (mem_specCells D L leaves ℓ _).mpr ⟨x, hx, rfl⟩

theorem specCells_lt (D L : Nat) (leaves : List Nat) (l : Nat) (hl : l ≤ L) (hb : ∀ i ∈ leaves, i < 2^(D*L)) :
    ∀ c ∈ specCells D L leaves l, c < 2^(D*l) := by
  intro c hc
  obtain ⟨i, hi, rfl⟩ := (mem_specCells D L leaves l c).mp hc
  rw [Nat.div_lt_iff_lt_mul (Nat.pow_pos (by omega)), ← Nat.pow_add, ← Nat.mul_add, Nat.add_sub_cancel' hl]
  exact hb i hi

theorem specCells_sorted {D L : Nat} {leaves : List Nat} {l : Nat} : (specCells D L leaves l).Pairwise (· < ·) :=
  sortDedup_sorted _

theorem specCells_nodup {D L : Nat} {leaves : List Nat} {l : Nat} : (specCells D L leaves l).Nodup :=
  specCells_sorted.imp Nat.ne_of_lt

theorem specCells_leaf (D L : Nat) (leaves : List Nat) (h : leaves.Pairwise (· < ·)) : specCells D L leaves L = leaves := by
  simp only [specCells, Nat.sub_self, Nat.mul_zero, Nat.pow_zero, Nat.div_one, List.map_id']
  exact sortDedup_of_sorted _ h

end Tbfmm
