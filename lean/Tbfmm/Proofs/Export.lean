import Tbfmm.Proofs.Leaves
namespace Tbfmm

theorem foldl_set_size {α : Type} (xs : List (Nat × α)) (a : Array α) :
    (xs.foldl (fun (a : Array α) (x : Nat × α) => a.setIfInBounds x.1 x.2) a).size = a.size := by
  induction xs generalizing a with
  | nil => rfl
  | cons x xs ih => rw [List.foldl_cons, ih, Array.size_setIfInBounds]

theorem foldl_set_get {α : Type} (vals : Nat → α) (xs : List (Nat × α)) (a : Array α) (i : Nat) (hi : i < a.size)
    (hv : ∀ x ∈ xs, x.2 = vals x.1) :
    (xs.foldl (fun (a : Array α) (x : Nat × α) => a.setIfInBounds x.1 x.2) a)[i]? =
      if i ∈ xs.map (·.1) then some (vals i) else a[i]? := by
  induction xs generalizing a with
  | nil => simp
  | cons x xs ih =>
    -- a later write to `i` wins, with the same value; otherwise the first write decides
    rw [List.foldl_cons, ih _ (by simpa using hi) (fun y hy => hv y (List.mem_cons_of_mem _ hy)),
      Array.getElem?_setIfInBounds]
    by_cases h1 : i ∈ xs.map (·.1)
    · simp [h1]
    · by_cases h2 : x.1 = i
      · simp [← h2, ← hv x List.mem_cons_self, h2 ▸ hi]
      · simp [h1, h2, Ne.symm h2]

theorem scatterByIndex_eq {α : Type} (n : Nat) (dflt : α) (vals : Nat → α) (xs : List (Nat × α))
    (hv : ∀ x ∈ xs, x.2 = vals x.1) (hcov : ∀ i, i < n → i ∈ xs.map (·.1)) :
    scatterByIndex n dflt xs = (List.range n).map vals := by
  apply List.ext_getElem?
  intro i
  unfold scatterByIndex
  by_cases hi : i < n
  · rw [Array.getElem?_toList, foldl_set_get vals xs _ i (by simpa using hi) hv, if_pos (hcov i hi)]
    simp [hi]
  · have h1 : (xs.foldl (fun (a : Array α) (x : Nat × α) => a.setIfInBounds x.1 x.2) (Array.replicate n dflt)).toList.length = n := by
      rw [Array.length_toList, foldl_set_size, Array.size_replicate]
    rw [List.getElem?_eq_none (by omega), List.getElem?_eq_none (by simp; omega)]

/-- **C17**: the bulk export of a built tree lists, at position `i`, the values of the particle inserted at position `i` -/
theorem C17_export {α : Type} (D H bs : Nat) (mode : Bool) (leafIdx : List Nat) (hbs : 0 < bs) (dflt : α) (vals : Nat → α) :
    (Tree.build D H bs mode leafIdx).exportBy dflt vals leafIdx.length = (List.range leafIdx.length).map vals := by
  unfold Tree.exportBy
  apply scatterByIndex_eq
  · intro x hx
    obtain ⟨y, _, rfl⟩ := List.mem_map.mp hx
    rfl
  · intro i hi
    have hp := C13_indices_perm D H bs mode leafIdx hbs
    have : i ∈ (Tree.build D H bs mode leafIdx).stored.map (·.2) := hp.mem_iff.mpr (List.mem_range.2 hi)
    rw [List.map_map]
    exact this

example : (Tree.build 1 3 2 false [3, 0, 3]).exportBy 0 (fun p => 10 + p) 3 = [10, 11, 12] :=
  C17_export 1 3 2 false [3, 0, 3] (by decide) 0 (fun p => 10 + p)

/-- C08 / C09: the automatic block size is a legal block size (at least one element per group) -/
theorem autoBlockSize_pos (leafIdx : List Nat) (threads : Nat) : 0 < autoBlockSize leafIdx threads :=
  Nat.lt_of_lt_of_le Nat.one_pos (Nat.le_max_left _ _)

end Tbfmm
