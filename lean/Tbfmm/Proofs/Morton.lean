import Tbfmm.Model.Morton
import Tbfmm.Proofs.ListLemmas
namespace Tbfmm

@[simp] theorem bitsOf_length (D c : Nat) : (bitsOf D c).length = D := by
  induction D with
  | zero => rfl
  | succ D ih => simp [bitsOf, ih]

theorem bitsOf_lt_two (D c : Nat) : ∀ b ∈ bitsOf D c, b < 2 := by
  induction D with
  | zero => intro b hb; simp [bitsOf] at hb
  | succ D ih =>
    intro b hb
    simp only [bitsOf, List.mem_cons] at hb
    rcases hb with hb | hb
    · subst hb; exact Nat.mod_lt _ (by omega)
    · exact ih b hb

theorem packBits_lt (bs : List Nat) (h : ∀ b ∈ bs, b < 2) : packBits bs < 2 ^ bs.length := by
  induction bs with
  | nil => simp [packBits]
  | cons b bs ih =>
    have hb : b < 2 := h b List.mem_cons_self
    have := ih (fun x hx => h x (List.mem_cons_of_mem _ hx))
    simp only [packBits, List.length_cons, Nat.pow_succ]
    have : b * 2 ^ bs.length ≤ 1 * 2 ^ bs.length := Nat.mul_le_mul_right _ (by omega)
    omega

theorem packBits_bitsOf (D c : Nat) : packBits (bitsOf D c) = c % 2^D := by
  induction D with
  | zero => simp [bitsOf, packBits, Nat.mod_one]
  | succ D ih =>
    simp only [bitsOf, packBits, bitsOf_length, ih]
    rw [Nat.pow_succ, Nat.mod_mul, Nat.add_comm, Nat.mul_comm]

theorem bitsOf_add_mul (D a r E : Nat) (hE : E ≤ D) : bitsOf E (a * 2^D + r) = bitsOf E r := by
  induction E with
  | zero => rfl
  | succ E ih =>
    simp only [bitsOf, ih (by omega)]
    congr 1
    have : 2^D = 2^(D-E-1) * 2 * 2^E := by rw [← Nat.pow_succ, ← Nat.pow_add]; congr 1; omega
    rw [this, ← Nat.mul_assoc, Nat.add_comm, Nat.add_mul_div_right _ _ (Nat.two_pow_pos E), ← Nat.mul_assoc,
      Nat.add_mul_mod_self_right]

theorem bitsOf_mod (D c : Nat) : bitsOf D (c % 2^D) = bitsOf D c := by
  conv => rhs; rw [← Nat.div_add_mod' c (2^D)]
  rw [bitsOf_add_mul D _ _ D (Nat.le_refl D)]

theorem bitsOf_packBits (bs : List Nat) (h : ∀ b ∈ bs, b < 2) : bitsOf bs.length (packBits bs) = bs := by
  induction bs with
  | nil => rfl
  | cons b bs ih =>
    have hb : b < 2 := h b List.mem_cons_self
    have hrest := fun x hx => h x (List.mem_cons_of_mem b hx)
    simp only [List.length_cons, bitsOf, packBits, bitsOf_add_mul _ b _ _ (Nat.le_refl _), ih hrest]
    rw [Nat.add_comm, Nat.add_mul_div_right _ _ (Nat.two_pow_pos _), Nat.div_eq_of_lt (packBits_lt bs hrest), Nat.zero_add,
      Nat.mod_eq_of_lt hb]

@[simp] theorem decode_length (D b i : Nat) : (decode D b i).length = D := by
  induction b generalizing i with
  | zero => simp [decode]
  | succ b ih => simp [decode, ih]

theorem halve_bit (c b : Nat) (hb : b < 2) : (2 * c + b) / 2 = c ∧ (2 * c + b) % 2 = b :=
  ⟨by rw [Nat.mul_add_div (by omega), Nat.div_eq_of_lt hb, Nat.add_zero], by rw [Nat.mul_add_mod, Nat.mod_eq_of_lt hb]⟩

/-- parent = coordinate-wise halving -/
theorem decode_parent (D b i : Nat) : (decode D (b+1) i).map (· / 2) = decode D b (i / 2^D) :=
  (zipWith_inv _ (· / 2) (· % 2) (· < 2) halve_bit (by simp) (bitsOf_lt_two D i)).1

/-- child code = the low bits of the coordinates -/
theorem decode_childCode (D b i : Nat) : (decode D (b+1) i).map (· % 2) = bitsOf D (i % 2^D) := by
  rw [bitsOf_mod]
  exact (zipWith_inv _ (· / 2) (· % 2) (· < 2) halve_bit (by simp) (bitsOf_lt_two D i)).2

theorem encode_decode (D b i : Nat) (h : i < 2 ^ (D * b)) : encode D b (decode D b i) = i := by
  induction b generalizing i with
  | zero => simp at h; simp [encode, h]
  | succ b ih =>
    have hq : i / 2^D < 2 ^ (D * b) := by
      rw [Nat.div_lt_iff_lt_mul (Nat.two_pow_pos D), ← Nat.pow_add]
      exact h
    rw [encode, decode_parent, decode_childCode, ih _ hq, packBits_bitsOf, Nat.mod_mod]
    exact Nat.div_add_mod' i (2^D)

theorem decode_up (D L a k : Nat) (hk : k ≤ L) : (decode D L a).map (· / 2^k) = decode D (L - k) (a / 2^(D*k)) := by
  induction k with
  | zero => simp
  | succ k ih =>
    have e : (decode D L a).map (· / 2^(k+1)) = ((decode D L a).map (· / 2^k)).map (· / 2) := by
      simp [Nat.pow_succ, Nat.div_div_eq_div_mul]
    rw [e, ih (Nat.le_of_succ_le hk), sub_eq_sub_succ_add_one hk, decode_parent, Nat.div_div_eq_div_mul, ← Nat.pow_add,
      Nat.mul_succ]

theorem decode_lt (D b i : Nat) : ∀ c ∈ decode D b i, c < 2^b := by
  intro c hc
  -- `b` levels up is the root, where every coordinate is 0
  have h := List.mem_map_of_mem (f := (· / 2^b)) hc
  rw [decode_up D b i b (Nat.le_refl b), Nat.sub_self, decode] at h
  exact Nat.lt_of_div_eq_zero (Nat.two_pow_pos b) (List.eq_of_mem_replicate h)

theorem decode_child (D b p ch : Nat) (hch : ch < 2^D) :
    decode D (b+1) (child D p ch) = List.zipWith (fun c bit => 2 * c + bit) (decode D b p) (bitsOf D ch) := by
  rw [decode, child, bitsOf_add_mul D p ch D (Nat.le_refl D), Nat.add_comm, Nat.add_mul_div_right _ _ (Nat.two_pow_pos D),
    Nat.div_eq_of_lt hch, Nat.zero_add]

theorem child_lt (D b p ch : Nat) (hp : p < 2^(D*b)) (hch : ch < 2^D) : child D p ch < 2^(D*(b+1)) := by
  have : (p + 1) * 2^D ≤ 2^(D*b) * 2^D := Nat.mul_le_mul_right _ hp
  rw [Nat.add_mul] at this
  rw [child, Nat.mul_succ, Nat.pow_add]
  omega

theorem parent_child (D p ch : Nat) (hch : ch < 2^D) : parent D (child D p ch) = p := by
  rw [parent, child, Nat.mul_comm, Nat.mul_add_div (Nat.two_pow_pos D), Nat.div_eq_of_lt hch, Nat.add_zero]

theorem childCode_child (D p ch : Nat) (hch : ch < 2^D) : childCode D (child D p ch) = ch := by
  rw [childCode, child, Nat.mul_comm, Nat.mul_add_mod, Nat.mod_eq_of_lt hch]

theorem child_parent (D s : Nat) : child D (parent D s) (childCode D s) = s := Nat.div_add_mod' s (2^D)

theorem encode_lt (D b : Nat) (cs : List Nat) (hl : cs.length = D) : encode D b cs < 2^(D*b) := by
  induction b generalizing cs with
  | zero => simp [encode]
  | succ b ih =>
    refine child_lt D b _ _ (ih _ (by simpa using hl)) ?_
    simpa [hl] using packBits_lt (cs.map (· % 2)) fun x hx => by
      obtain ⟨c, _, rfl⟩ := List.mem_map.1 hx
      omega

theorem decode_encode (D b : Nat) (cs : List Nat) (hl : cs.length = D) (hc : ∀ c ∈ cs, c < 2^b) :
    decode D b (encode D b cs) = cs := by
  induction b generalizing cs with
  | zero =>
    refine List.ext_getElem (by simp [decode, hl]) fun k _ h2 => ?_
    have := hc cs[k] (List.getElem_mem h2)
    simp [decode] at this ⊢
    omega
  | succ b ih =>
    have hhalf : ∀ c ∈ cs.map (· / 2), c < 2^b := fun c hc' => by
      obtain ⟨c0, h0, rfl⟩ := List.mem_map.1 hc'
      exact Nat.div_lt_of_lt_mul (by rw [Nat.mul_comm, ← Nat.pow_succ]; exact hc c0 h0)
    have hbits : ∀ x ∈ cs.map (· % 2), x < 2 := fun x hx => by
      obtain ⟨c0, _, rfl⟩ := List.mem_map.1 hx
      exact Nat.mod_lt _ (by omega)
    have hbo : bitsOf D (packBits (cs.map (· % 2))) = cs.map (· % 2) := by simpa [hl] using bitsOf_packBits _ hbits
    show decode D (b+1) (child D (encode D b (cs.map (· / 2))) (packBits (cs.map (· % 2)))) = cs
    rw [decode_child D b _ _ (by simpa [hl] using packBits_lt _ hbits), ih _ (by simp [hl]) hhalf, hbo, List.zipWith_map,
      List.zipWith_self]
    simp only [Nat.div_add_mod, List.map_id']

theorem sorted_mono_par (D : Nat) (cs : List Nat) (hs : cs.Pairwise (· < ·)) :
    cs.Pairwise (fun a b => parent D a ≤ parent D b) :=
  hs.imp fun hab => Nat.div_le_div_right (Nat.le_of_lt hab)

end Tbfmm
