import Tbfmm.Proofs.Transfer
import Tbfmm.Proofs.Results
import Tbfmm.Proofs.P2PPairs
/-!
Periodic runs: each of the `3^D` images of a source leaf `b` is served once: by the transfers at exactly one level if it
is not adjacent to the target leaf `a`, else (unless it is `a` itself) by the direct pass in exactly one orientation.
-/
namespace Tbfmm

/-- `= levelShifts D true ℓ` by `rfl` (as `unitShifts D = imageShifts D true`); separate names because `AvalP` and the
    statements of `far_total_per`, `image_count` are written with them -/
def shiftsAt (D ℓ : Nat) : List (List Int) := (imageShifts D true).map fun k => k.map (· * (2:Int)^ℓ)

theorem levelShifts_true (D ℓ : Nat) : levelShifts D true ℓ = shiftsAt D ℓ := rfl

/-- what the periodic transfer phase puts into the local `(ℓ, i)`: one per accepted image shift -/
def AvalP (D L u : Nat) (cellsAt : Nat → List Nat) (b : Nat) (ℓ i : Nat) : Nat :=
  if u ≤ ℓ ∧ ℓ ≤ L then
    (if 1 ≤ ℓ ∧ i ∈ cellsAt ℓ ∧ anc D L ℓ b ∈ cellsAt ℓ then
      sumOver (shiftsAt D ℓ) (fun k => if perTest D ℓ i (anc D L ℓ b) k then 1 else 0) else 0)
  else 0

theorem m2l_phase_eval_per (w : Nat → Nat) {D L : Nat} (po po' : Nat → List Nat) {cellsAt : Nat → List Nat} {b : Nat}
    (hnd : ∀ ℓ, (cellsAt ℓ).Nodup) {u : Nat} {cs : List Call} (hform : ∀ c ∈ cs, ∃ lv t srcs, c = .m2l lv t srcs)
    (helems : (cs.flatMap elemsOfCall).Perm ((List.range' u (L + 1 - u)).flatMap fun ℓ => specM2LLevel D true ℓ (cellsAt ℓ) (cellsAt ℓ)))
    {s : State} (hm : ∀ ℓ j, u ≤ ℓ → ℓ ≤ L → s.m ℓ j = if j = anc D L ℓ b then 1 else 0) (hl : ∀ lv i, s.l lv i = 0) :
    (∀ ℓ i, (applyCalls w L po po' s cs).l ℓ i = AvalP D L u cellsAt b ℓ i) ∧
    (∀ lv i, (applyCalls w L po po' s cs).m lv i = s.m lv i) ∧ (∀ p, (applyCalls w L po po' s cs).r p = s.r p) := by
  refine ⟨?_, (phase_m2l w L po po' cs hform s).2⟩
  exact m2l_phase_levels w L po po' u cs hform helems s hl (fun ℓ' h1 h2 ℓ i => m2l_sum hnd hnd true (fun j => hm ℓ' j h1 h2) ℓ i)

theorem results_eval_per {q p : Nat} (D L : Nat) {po : Nat → List Nat} {leaves : List Nat} {a b : Nat}
    (hn : leaves.Nodup) (ha : a ∈ leaves) (hb : b ∈ leaves)
    (hp : ∀ i ∈ leaves, (po i).count p = if i = a then 1 else 0)
    (hq : ∀ i ∈ leaves, (po i).count q = if i = b then 1 else 0)
    {act : Bool} {cs : List Call} (hform : ∀ c ∈ cs, isResultCall po c)
    (helems : (cs.flatMap elemsOfCall).Perm ((if act then leaves.map (fun i => Elem.l2p i (po i).length) else []) ++
        (specP2P D true L leaves ++ leaves.map Elem.p2pInner)))
    {s : State} (hr : s.r p = 0) :
    (applyCalls (wq q) L po po s cs).r p =
      (if act then s.l L a else 0) +
      (sumOver (shiftsAt D L) (fun k => if perP2PTest D L a b k then 1 else 0) +
       sumOver (shiftsAt D L) (fun k => if perP2PTest D L b a k then 1 else 0)) +
      ((if a = b then 1 else 0) - wq q p) := by
  rw [results_eval_split L hn ha hp hq hform helems hr, p2p_sum D L hn ha hp hq true s, if_pos hb, levelShifts_true]

def unitShifts (D : Nat) : List (List Int) := imageShifts D true

theorem mem_unitShifts (D : Nat) (K : List Int) : K ∈ unitShifts D ↔ K.length = D ∧ ∀ x ∈ K, -1 ≤ x ∧ x ≤ 1 := by
  simp [unitShifts, mem_imageShifts]

theorem nodup_unitShifts (D : Nat) : (unitShifts D).Nodup := nodup_imageShifts D true

theorem unitShifts_length (D : Nat) : (unitShifts D).length = 3^D := odometer_replicate_length D (-1) 1

theorem zero_mem_unitShifts (D : Nat) : List.replicate D (0:Int) ∈ unitShifts D :=
  (mem_unitShifts D _).2 ⟨List.length_replicate, fun x hx => by rw [List.eq_of_mem_replicate hx]; omega⟩

theorem sumOver_neg_unit (D : Nat) (g : List Int → Nat) :
    sumOver (unitShifts D) g = sumOver (unitShifts D) (fun K => g (K.map (- ·))) := by
  refine sumOver_involution (nodup_unitShifts D) _ (fun K => by simp [List.map_map, Function.comp_def]) (fun K hK => ?_) g
  obtain ⟨h1, h2⟩ := (mem_unitShifts D K).1 hK
  refine (mem_unitShifts D _).2 ⟨by simpa using h1, fun x hx => ?_⟩
  obtain ⟨y, hy, rfl⟩ := List.mem_map.1 hx
  have := h2 y hy
  omega

theorem shiftsAt_eq (D ℓ : Nat) : shiftsAt D ℓ = (unitShifts D).map fun K => K.map (· * (2:Int)^ℓ) := rfl

section
variable (D L u : Nat) {leaves : List Nat}

def servedAt (a b : Nat) (K : List Int) (ℓ : Nat) : Nat :=
  if 1 ≤ ℓ ∧ perTest D ℓ (anc D L ℓ a) (anc D L ℓ b) (K.map (· * (2:Int)^ℓ)) = true then 1 else 0

theorem servedAt_total (a b : Nat) (hu : u ≤ 1) (K : List Int) (hK : K ∈ unitShifts D) :
    sumOver (List.range' u (L + 1 - u)) (servedAt D L a b K) =
      if adjV (toI (decode D L a)) (vadd (toI (decode D L b)) (K.map (· * (2:Int)^L))) then 0 else 1 := by
  obtain ⟨hKl, hKr⟩ := (mem_unitShifts D K).1 hK
  have hf : ∀ ℓ j, ℓ + j = L → u ≤ ℓ → servedAt D L a b K ℓ =
      if 1 ≤ ℓ ∧ perTest D (L-j) (a / 2^(D*j)) (b / 2^(D*j)) (K.map (· * (2:Int)^(L-j))) = true then 1 else 0 := by
    intro ℓ j h _
    subst h
    rw [servedAt, anc_add, anc_add, Nat.add_sub_cancel]
  cases hadj : adjV (toI (decode D L a)) (vadd (toI (decode D L b)) (K.map (· * (2:Int)^L)))
  · obtain ⟨j0, ⟨hj0, ht0⟩, huniq⟩ := C10_periodic_far_once D L a b K hKl hKr hadj
    exact levels_once u 1 L hu hf j0 hj0 ht0 huniq
  · exact levels_none u 1 L hf
      (fun j hj h => by rw [C10_periodic_near_none D L a b K hKl hadj j hj] at h; exact Bool.noConfusion h)

variable {a b : Nat} (ha : a ∈ leaves) (hb : b ∈ leaves)
include ha hb

theorem AvalP_anc (ℓ : Nat) (hℓ : ℓ ∈ List.range' u (L + 1 - u)) :
    AvalP D L u (fun ℓ => specCells D L leaves ℓ) b ℓ (anc D L ℓ a) = sumOver (unitShifts D) (fun K => servedAt D L a b K ℓ) := by
  unfold AvalP servedAt
  rw [if_pos (mem_levels.1 hℓ)]
  by_cases h0 : 1 ≤ ℓ
  · rw [if_pos ⟨h0, specCells_anc D L leaves ha ℓ, specCells_anc D L leaves hb ℓ⟩, shiftsAt_eq, sumOver_map]
    simp only [Function.comp_def, h0, true_and]
  · rw [if_neg (fun h => h0 h.1)]
    simp only [h0, false_and, if_false]
    exact (sumOver_zero (fun _ _ => rfl)).symm

theorem far_count_per (hu : u ≤ 1) :
    sumOver (List.range' u (L + 1 - u)) (fun ℓ => AvalP D L u (fun ℓ => specCells D L leaves ℓ) b ℓ (anc D L ℓ a)) =
      sumOver (unitShifts D) (fun K => if adjV (toI (decode D L a)) (vadd (toI (decode D L b)) (K.map (· * (2:Int)^L))) then 0 else 1) := by
  rw [sumOver_congr (AvalP_anc D L u ha hb), sumOver_comm]
  exact sumOver_congr (fun K hK => servedAt_total D L u a b hu K hK)

end

section
variable (D L u : Nat) (leaves : List Nat) (a b : Nat) (ha : a ∈ leaves) (hb : b ∈ leaves)

include ha hb

/-- total of the transfers received along the ancestors of `a`, periodic: one per non-adjacent image; in the form in
    which `l2l_pass` delivers it -/
theorem far_total_per (hu : u ≤ 1) :
    (if u ≤ L then AvalP D L u (fun ℓ => specCells D L leaves ℓ) b u (anc D L u a) +
        sumA D L a (AvalP D L u (fun ℓ => specCells D L leaves ℓ) b) u (L - u) else 0) =
      sumOver (unitShifts D) (fun K => if adjV (toI (decode D L a)) (vadd (toI (decode D L b)) (K.map (· * (2:Int)^L))) then 0 else 1) :=
  (sumA_levels D L a _ u).trans (far_count_per D L u ha hb hu)

end

section
variable (D L : Nat) (a b : Nat) (ha : a < 2^(D*L)) (hb : b < 2^(D*L))

include ha hb

theorem image_eq_iff (K : List Int) (hK : K ∈ unitShifts D) :
    vadd (toI (decode D L b)) (K.map (· * (2:Int)^L)) = toI (decode D L a) ↔ (K = List.replicate D 0 ∧ a = b) := by
  rw [← virt_zero D L a]
  constructor
  · intro h
    obtain ⟨h1, h2⟩ := virt_inj D L b a hb ha K _ ((mem_unitShifts D K).1 hK).1 List.length_replicate h
    exact ⟨h2, h1.symm⟩
  · rintro ⟨rfl, rfl⟩
    rfl

/-- all `3^D` images of `b` are distinct from `a`, except `b` itself when `a = b` -/
theorem image_count :
    sumOver (unitShifts D) (fun K => if vadd (toI (decode D L b)) (K.map (· * (2:Int)^L)) = toI (decode D L a) then 0 else 1) +
      (if a = b then 1 else 0) = 3^D := by
  have hit : sumOver (unitShifts D) (fun K => if vadd (toI (decode D L b)) (K.map (· * (2:Int)^L)) = toI (decode D L a) then 1 else 0) =
      if a = b then 1 else 0 := by
    rw [sumOver_single (nodup_unitShifts D) (List.replicate D 0), if_pos (zero_mem_unitShifts D)]
    · by_cases hab : a = b
      · rw [if_pos ((image_eq_iff D L a b ha hb _ (zero_mem_unitShifts D)).2 ⟨rfl, hab⟩), if_pos hab]
      · rw [if_neg (fun e => hab ((image_eq_iff D L a b ha hb _ (zero_mem_unitShifts D)).1 e).2), if_neg hab]
    · intro K hK hne
      rw [if_neg (fun e => hne ((image_eq_iff D L a b ha hb K hK).1 e).1)]
  rw [← hit, sumOver_compl, unitShifts_length]

end

theorem images_total (D L : Nat) {a b : Nat} (hba : a < 2^(D*L)) (hbb : b < 2^(D*L)) (u : Nat) {leaves : List Nat}
    (ha : a ∈ leaves) (hb : b ∈ leaves) (hu : u ≤ 1) :
    sumOver (List.range' u (L + 1 - u)) (fun ℓ => AvalP D L u (fun ℓ => specCells D L leaves ℓ) b ℓ (anc D L ℓ a)) +
      (sumOver (levelShifts D true L) (fun k => if perP2PTest D L a b k then 1 else 0) +
       sumOver (levelShifts D true L) (fun k => if perP2PTest D L b a k then 1 else 0)) +
      (if a = b then 1 else 0) = 3^D := by
  -- image by image; the orientation `b ← a` is taken at the opposite shift
  rw [far_count_per D L u ha hb hu, levelShifts_true, shiftsAt_eq, sumOver_map, sumOver_map,
    sumOver_neg_unit D ((fun k => if perP2PTest D L b a k then 1 else 0) ∘ fun K => K.map (· * (2:Int)^L)),
    ← sumOver_add, ← sumOver_add, ← image_count D L a b hba hbb]
  refine congrArg (· + _) (sumOver_congr fun K hK => ?_)
  have e : (K.map (- ·)).map (· * (2:Int)^L) = (K.map (· * (2:Int)^L)).map (- ·) := by
    simp only [List.map_map]
    exact List.map_congr_left (fun x _ => Int.neg_mul x _)
  simp only [Function.comp, e]
  rw [← image_once D L a b (K.map (· * (2:Int)^L)) (by simpa using ((mem_unitShifts D K).1 hK).1), Nat.add_assoc]

end Tbfmm
