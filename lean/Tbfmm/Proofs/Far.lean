/-! Adjacency has three forms: `Far.adj` (naturals, a `Prop`), `adjV` (integers, a `Bool`; bridge `adjV_toI`),
`(vsub b a).all (natAbs ≤ 1)` (what the builders compute; bridge `adjV_eq_all`).  `Far.adj1` is not `Tbfmm.adj1`. -/
namespace Tbfmm.Far

/-- coordinates, one entry per dimension -/
abbrev Vec := List Nat

def adj1 (x y : Nat) : Prop := x ≤ y + 1 ∧ y ≤ x + 1
instance (x y : Nat) : Decidable (adj1 x y) := by unfold adj1; infer_instance

/-- adjacent or equal in every dimension -/
def adj : Vec → Vec → Prop
  | [], [] => True
  | x :: xs, y :: ys => adj1 x y ∧ adj xs ys
  | _, _ => False

instance : (a b : Vec) → Decidable (adj a b)
  | [], [] => isTrue trivial
  | x :: xs, y :: ys => by
      have := instDecidableAdj xs ys
      unfold adj; infer_instance
  | [], _ :: _ => isFalse (by simp [adj])
  | _ :: _, [] => isFalse (by simp [adj])

/-- ancestor `k` levels up -/
def up (k : Nat) (v : Vec) : Vec := v.map (· / 2^k)

/-- the "interaction" predicate at `k` levels above the leaves: parents adjacent, cells not -/
def inter (k : Nat) (a b : Vec) : Prop := adj (up (k+1) a) (up (k+1) b) ∧ ¬ adj (up k a) (up k b)

instance (k : Nat) (a b : Vec) : Decidable (inter k a b) := by unfold inter; infer_instance

end Tbfmm.Far
