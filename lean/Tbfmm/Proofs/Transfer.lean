import Tbfmm.Proofs.Passes
import Tbfmm.Proofs.M2LPairs
import Tbfmm.Proofs.SpecSums
/-!
For one source particle in leaf `b`: a cell's local becomes 1 iff `b`'s ancestor is in its interaction list (`Aval`);
summed along the ancestors of a target leaf this is 0 for adjacent (or equal) leaves and 1 otherwise.
-/
namespace Tbfmm

/-- if the list of level `ℓ'` contributes `X ℓ i` to the local `(ℓ,i)` when `ℓ' = ℓ` and nothing otherwise, the phase leaves
    `X` in the locals of the levels `u … L` -/
theorem m2l_phase_levels (w : Nat → Nat) (L : Nat) (po po' : Nat → List Nat) (u : Nat) {lists : Nat → List Elem}
    (cs : List Call) (hform : ∀ c ∈ cs, ∃ lv t srcs, c = .m2l lv t srcs)
    (helems : (cs.flatMap elemsOfCall).Perm ((List.range' u (L + 1 - u)).flatMap lists))
    (s : State) (hl : ∀ lv i, s.l lv i = 0) {X : Nat → Nat → Nat}
    (hX : ∀ ℓ', u ≤ ℓ' → ℓ' ≤ L → ∀ ℓ i, sumOver (lists ℓ') (cL s ℓ i) = if ℓ' = ℓ then X ℓ i else 0) (ℓ i : Nat) :
    (applyCalls w L po po' s cs).l ℓ i = if u ≤ ℓ ∧ ℓ ≤ L then X ℓ i else 0 := by
  have hX' : ∀ ℓ' ∈ List.range' u (L + 1 - u), sumOver (lists ℓ') (cL s ℓ i) = if ℓ' = ℓ then X ℓ i else 0 :=
    fun ℓ' hℓ' => hX ℓ' (mem_levels.1 hℓ').1 (mem_levels.1 hℓ').2 ℓ i
  rw [(phase_m2l w L po po' cs hform s).1, hl, Nat.zero_add, sumOver_perm _ helems, sumOver_flatMap,
    sumOver_single (List.nodup_range' (step := 1)) ℓ (fun ℓ' hℓ' hne => by rw [hX' ℓ' hℓ', if_neg hne])]
  simp only [mem_levels]
  split
  next h => rw [hX' ℓ (mem_levels.2 h), if_pos rfl]
  next => rfl

/-- what the transfer phase puts into the local `(ℓ, i)` when the multipoles hold `q` once in the ancestors of `b` -/
def Aval (D L u : Nat) (cellsT cellsS : Nat → List Nat) (b : Nat) (ℓ i : Nat) : Nat :=
  if u ≤ ℓ ∧ ℓ ≤ L then
    (if Elem.m2l ℓ i (anc D L ℓ b) (m2lCode D ℓ i (anc D L ℓ b)) ∈ specM2LLevel D false ℓ (cellsT ℓ) (cellsS ℓ) then 1 else 0)
  else 0

theorem m2l_count_np (D ℓ : Nat) (T S : List Nat) (t s : Nat) :
    (if 2 ≤ ℓ ∧ t ∈ T ∧ s ∈ S then sumOver (levelShifts D false ℓ) (fun k => if perTest D ℓ t s k then 1 else 0) else 0) =
      if Elem.m2l ℓ t s (m2lCode D ℓ t s) ∈ specM2LLevel D false ℓ T S then 1 else 0 := by
  rw [specM2LLevel_eq, cond_false]
  by_cases h2 : ℓ < 2
  · rw [if_pos h2, if_neg (fun h' => absurd h'.1 (by omega)), if_neg List.not_mem_nil]
  · rw [if_neg h2, ← count_shifts_np (fun _ _ _ => rfl) t s (by rw [vadd_decode_zero, m2lCode])]
    simp only [show 2 ≤ ℓ by omega, true_and]

/-- with `q` once in the ancestor of `b`, the level-`ℓ'` list contributes to the local `(ℓ,i)` the number of accepted
    shifts of the pair `(i, anc b)`, at `ℓ' = ℓ` only -/
theorem m2l_sum {D L : Nat} {cellsT cellsS : Nat → List Nat} {b : Nat} (hndT : ∀ ℓ, (cellsT ℓ).Nodup) (hndS : ∀ ℓ, (cellsS ℓ).Nodup)
    (periodic : Bool) {s : State} {ℓ' : Nat} (hm : ∀ j, s.m ℓ' j = if j = anc D L ℓ' b then 1 else 0) (ℓ i : Nat) :
    sumOver (specM2LLevel D periodic ℓ' (cellsT ℓ') (cellsS ℓ')) (cL s ℓ i) =
      if ℓ' = ℓ then
        (if (bif periodic then 1 else 2) ≤ ℓ ∧ i ∈ cellsT ℓ ∧ anc D L ℓ b ∈ cellsS ℓ then
          sumOver (levelShifts D periodic ℓ) (fun k => if perTest D ℓ i (anc D L ℓ b) k then 1 else 0) else 0) else 0 := by
  rw [specM2LLevel_eq]
  by_cases h1 : ℓ' < (bif periodic then 1 else 2)
  · rw [if_pos h1, sumOver_nil]
    by_cases he : ℓ' = ℓ
    · rw [if_pos he, if_neg (fun h => absurd h.1 (by omega))]
    · rw [if_neg he]
  · rw [if_neg h1, sumOver_triples (fun t src => if (ℓ', t) = (ℓ, i) then s.m ℓ' src else 0) (fun _ _ _ _ _ => rfl)]
    by_cases he : ℓ' = ℓ
    · subst he
      rw [if_pos rfl, sumOver_pair (hndT ℓ') (hndS ℓ') i (anc D L ℓ' b)]
      · simp [hm, show (bif periodic then 1 else 2) ≤ ℓ' by omega]
      · intro t _ src _ hne
        by_cases ht : t = i
        · rw [hm, if_neg (fun e => hne ⟨ht, e⟩)]; simp
        · rw [if_neg (fun e => ht (Prod.mk.inj e).2), Nat.mul_zero]
    · rw [if_neg he]
      refine sumOver_zero (fun t _ => sumOver_zero (fun src _ => ?_))
      rw [if_neg (fun e => he (Prod.mk.inj e).1), Nat.mul_zero]

section
variable (q : Nat) (D L : Nat) (po po' : Nat → List Nat) (cellsT cellsS : Nat → List Nat) (b : Nat)
  (hndT : ∀ ℓ, (cellsT ℓ).Nodup) (hndS : ∀ ℓ, (cellsS ℓ).Nodup)

include hndT hndS

/-- transfer phase: with the multipoles as left by the upward pass and empty locals, the locals become `Aval`
    (`hu` is not needed) -/
theorem m2l_phase_eval (u : Nat) (hu : u ≤ L) (cs : List Call) (hform : ∀ c ∈ cs, ∃ lv t srcs, c = .m2l lv t srcs)
    (helems : (cs.flatMap elemsOfCall).Perm ((List.range' u (L + 1 - u)).flatMap fun ℓ => specM2LLevel D false ℓ (cellsT ℓ) (cellsS ℓ)))
    (s : State) (hm : ∀ ℓ j, u ≤ ℓ → ℓ ≤ L → s.m ℓ j = if j = anc D L ℓ b then 1 else 0) (hl : ∀ lv i, s.l lv i = 0) :
    (∀ ℓ i, (applyCalls (wq q) L po po' s cs).l ℓ i = Aval D L u cellsT cellsS b ℓ i) ∧
    (∀ lv i, (applyCalls (wq q) L po po' s cs).m lv i = s.m lv i) ∧ (∀ p, (applyCalls (wq q) L po po' s cs).r p = s.r p) := by
  refine ⟨?_, (phase_m2l (wq q) L po po' cs hform s).2⟩
  exact m2l_phase_levels (wq q) L po po' u cs hform helems s hl (fun ℓ' h1 h2 ℓ i => by
    rw [m2l_sum hndT hndS false (fun j => hm ℓ' j h1 h2) ℓ i, cond_false, m2l_count_np])

end

section
variable (D L u : Nat) {leavesT leavesS : List Nat} {a b : Nat} (ha : a ∈ leavesT) (hb : b ∈ leavesS)

include ha hb

theorem Aval_anc (ℓ j : Nat) (h : ℓ + j = L) (hℓ : u ≤ ℓ) :
    Aval D L u (fun ℓ => specCells D L leavesT ℓ) (fun ℓ => specCells D L leavesS ℓ) b ℓ (anc D L ℓ a) =
      if 2 ≤ ℓ ∧ Far.inter j (decode D L a) (decode D L b) then 1 else 0 := by
  subst h
  rw [Aval, if_pos ⟨hℓ, Nat.le_add_right ℓ j⟩]
  by_cases h2 : 2 ≤ ℓ
  · -- the specification's own code ⟷ some code
    have own : ∀ t s T S, Elem.m2l ℓ t s (m2lCode D ℓ t s) ∈ specM2LLevel D false ℓ T S ↔ ∃ c, Elem.m2l ℓ t s c ∈ specM2LLevel D false ℓ T S :=
      fun t s T S => ⟨fun h => ⟨_, h⟩, fun ⟨c, hc⟩ => by rwa [code_of_mem_specM2L_np hc] at hc⟩
    -- level `ℓ` is height `j`: the ancestors there are `a / 2^(D*j)`, `b / 2^(D*j)`, and they are transfer partners iff the leaves interact at `j`
    have iff : (∃ c, Elem.m2l ℓ (a / 2^(D*j)) (b / 2^(D*j)) c ∈
          specM2LLevel D false ℓ (specCells D (ℓ+j) leavesT ℓ) (specCells D (ℓ+j) leavesS ℓ)) ↔
        Far.inter j (decode D (ℓ+j) a) (decode D (ℓ+j) b) := by
      have := m2l_between_ancestors_iff2 D (ℓ+j) leavesT leavesS a b ha hb j (by omega)
      rwa [Nat.add_sub_cancel] at this
    simp only [anc_add, own, iff, h2, true_and]
  · -- below level 2 the specification has no transfers
    rw [if_neg (fun hm => h2 (mem_specM2L_np.1 hm).1), if_neg (fun h => h2 h.1)]

theorem far_count (hu : u ≤ 2) :
    sumOver (List.range' u (L + 1 - u))
        (fun ℓ => Aval D L u (fun ℓ => specCells D L leavesT ℓ) (fun ℓ => specCells D L leavesS ℓ) b ℓ (anc D L ℓ a)) =
      if Far.adj (decode D L a) (decode D L b) then 0 else 1 := by
  have hf := Aval_anc D L u ha hb
  by_cases hadj : Far.adj (decode D L a) (decode D L b)
  · rw [if_pos hadj]
    exact levels_none u 2 L hf (fun j _ => Far.near_none _ _ hadj j)
  · obtain ⟨k0, ⟨hk0, hi0⟩, huniq⟩ := Far.far_unique L (decode D L a) (decode D L b) (by simp)
      (decode_lt D L a) (decode_lt D L b) hadj
    rw [if_neg hadj]
    exact levels_once u 2 L hu hf k0 hk0 hi0 (fun j _ => huniq j)

end

section
variable (D L u : Nat) (leavesT leavesS : List Nat) (a b : Nat) (ha : a ∈ leavesT) (hb : b ∈ leavesS)

include ha hb

/-- total of the transfers between the ancestors of `a` and `b`, in the form in which `l2l_pass` delivers it -/
theorem far_total (hu : u ≤ 2) :
    (if u ≤ L then Aval D L u (fun ℓ => specCells D L leavesT ℓ) (fun ℓ => specCells D L leavesS ℓ) b u (anc D L u a) +
        sumA D L a (Aval D L u (fun ℓ => specCells D L leavesT ℓ) (fun ℓ => specCells D L leavesS ℓ) b) u (L - u) else 0) =
      if Far.adj (decode D L a) (decode D L b) then 0 else 1 :=
  (sumA_levels D L a _ u).trans (far_count D L u ha hb hu)

end

end Tbfmm
