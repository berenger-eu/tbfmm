import Tbfmm.Proofs.KernelState
import Tbfmm.Spec.Fmm
/-!
Within a phase (calls of one operator) every call reads values no call of the phase writes, so its effect is the sum
of the contributions of its elementary interactions as measured before the phase, whatever their order.
-/
namespace Tbfmm

theorem applyCalls_append (w : Nat → Nat) (L : Nat) (po po' : Nat → List Nat) (s : State) (a b : List Call) :
    applyCalls w L po po' s (a ++ b) = applyCalls w L po po' (applyCalls w L po po' s a) b := by
  simp [applyCalls, List.foldl_append]

/-- Core's `List.instDecidableMemOfLawfulBEq` does not apply: `Elem` also derives `BEq`, not known to be lawful. -/
instance elemMemDec (e : Elem) (l : List Elem) : Decidable (e ∈ l) :=
  decidable_of_iff (∃ x ∈ l, e = x) (by simp)

-- `po`: the particles of a TARGET leaf, `po'`: of a SOURCE leaf (the model's `partsOf`, `partsOfSrc`)
variable (w : Nat → Nat) (L : Nat) (po po' : Nat → List Nat)

/-- contribution of an elementary interaction to the multipole `(lv, i)`, read in `s0`; `cL`, `cR`: to a local, a result -/
def cM (s0 : State) (lv i : Nat) : Elem → Nat
  | .p2m leaf _ => if (L, leaf) = (lv, i) then sumW w (po' leaf) else 0
  | .m2m level p c _ => if (level, p) = (lv, i) then s0.m (level+1) c else 0
  | _ => 0
def cL (s0 : State) (lv i : Nat) : Elem → Nat
  | .m2l level t src _ => if (level, t) = (lv, i) then s0.m level src else 0
  | .l2l level p c _ => if (level+1, c) = (lv, i) then s0.l level p else 0
  | _ => 0
def cR (s0 : State) (p' : Nat) : Elem → Nat
  | .l2p leaf _ => (po leaf).count p' * s0.l L leaf
  | .p2p src tgt _ => (po tgt).count p' * sumW w (po src) + (po src).count p' * sumW w (po tgt)
  | .p2pInner leaf => (po leaf).count p' * (sumW w (po leaf) - w p')
  | .p2pTsm src tgt _ => (po tgt).count p' * sumW w (po' src)
  | _ => 0

/-- the calls of the result phases (an L2P call carrying its leaf's particle list) -/
def isResultCall : Call → Prop
  | .l2p leaf parts => parts = po leaf
  | .p2p _ _ _ => True
  | .p2pInner _ => True
  | .p2pTsm _ _ _ => True
  | _ => False

def callWf : Call → Prop
  | .p2m leaf parts => parts = po' leaf
  | .l2p leaf parts => parts = po leaf
  | _ => True

theorem result_call_effect (c : Call) (hc : isResultCall po c) (s : State) :
    (∀ p', (applyCall w L po po' s c).r p' = s.r p' + sumOver (elemsOfCall c) (cR w L po po' s p')) ∧
    (∀ lv i, (applyCall w L po po' s c).m lv i = s.m lv i) ∧ (∀ lv i, (applyCall w L po po' s c).l lv i = s.l lv i) := by
  cases c with
  | l2p leaf parts =>
    rw [show parts = po leaf from hc]
    exact foldl_addR (po leaf) (fun s _ => s.l L leaf) (fun _ _ _ _ => rfl) s
  | p2p src tgt code =>
    obtain ⟨a1, a2, a3⟩ := foldl_addR (po tgt) (fun _ _ => sumW w (po src)) (fun _ _ _ _ => rfl) s
    obtain ⟨b1, b2, b3⟩ := foldl_addR (po src) (fun _ _ => sumW w (po tgt)) (fun _ _ _ _ => rfl)
      ((po tgt).foldl (fun s p => s.addR p (sumW w (po src))) s)
    exact ⟨fun p' => ((b1 p').trans (congrArg (· + _) (a1 p'))).trans (Nat.add_assoc _ _ _),
      fun lv i => (b2 lv i).trans (a2 lv i), fun lv i => (b3 lv i).trans (a3 lv i)⟩
  | p2pTsm src tgt code => exact foldl_addR (po tgt) (fun _ _ => sumW w (po' src)) (fun _ _ _ _ => rfl) s
  | p2pInner leaf => exact foldl_addR (po leaf) (fun _ p => sumW w (po leaf) - w p) (fun _ _ _ _ => rfl) s
  | p2m _ _ | m2m _ _ _ | m2l _ _ _ | l2l _ _ _ => exact hc.elim

theorem applyCall_effect (c : Call) (hc : callWf po po' c) (s : State) :
    (∀ lv i, (applyCall w L po po' s c).m lv i = s.m lv i + sumOver (elemsOfCall c) (cM w L po' s lv i)) ∧
    (∀ lv i, (applyCall w L po po' s c).l lv i = s.l lv i + sumOver (elemsOfCall c) (cL s lv i)) ∧
    (∀ p', (applyCall w L po po' s c).r p' = s.r p' + sumOver (elemsOfCall c) (cR w L po po' s p')) := by
  have zero : ∀ {α} (xs : List α) (g : α → Elem) (f : Elem → Nat), (∀ x, f (g x) = 0) → ∀ v : Nat, v = v + sumOver (xs.map g) f :=
    fun xs g f h v => by rw [sumOver_map, sumOver_zero (f := f ∘ g) (fun x _ => h x)]; rfl
  have res := result_call_effect w L po po' c
  -- (the values are rewritten to those of `s` before `rfl`: through the hash maps it is slow)
  cases c with
  | p2m leaf parts =>
    rw [show parts = po' leaf from hc, applyCall, elemsOfCall]
    refine ⟨fun lv i => ?_, fun lv i => ?_, fun p' => ?_⟩
    · rw [addM_m]; rfl
    · rw [addM_l]; rfl
    · rw [addM_r]; rfl
  | m2m level p ch =>
    rw [applyCall, elemsOfCall]
    refine ⟨fun lv i => ?_, fun lv i => ?_, fun p' => ?_⟩
    · rw [addM_m, sumOver_map]
      exact congrArg _ (sumOver_ite ch _ (fun c => s.m (level+1) c.1)).symm
    · rw [addM_l]; exact zero ch _ _ (fun _ => rfl) _
    · rw [addM_r]; exact zero ch _ _ (fun _ => rfl) _
  | m2l level t srcs =>
    rw [applyCall, elemsOfCall]
    refine ⟨fun lv i => ?_, fun lv i => ?_, fun p' => ?_⟩
    · rw [addL_m]; exact zero srcs _ _ (fun _ => rfl) _
    · rw [addL_l, sumOver_map]
      exact congrArg _ (sumOver_ite srcs _ (fun c => s.m level c.1)).symm
    · rw [addL_r]; exact zero srcs _ _ (fun _ => rfl) _
  | l2l level p ch =>
    obtain ⟨f1, f2, f3⟩ := foldl_addL_children ch level p s
    rw [applyCall, elemsOfCall]
    refine ⟨fun lv i => ?_, fun lv i => ?_, fun p' => ?_⟩
    · rw [f2]; exact zero ch _ _ (fun _ => rfl) _
    · rw [f1, sumOver_map]; rfl
    · rw [f3]; exact zero ch _ _ (fun _ => rfl) _
  -- (the result calls: `callWf` is `isResultCall` on them, on an L2P call the same condition `parts = po leaf`;
  -- `rfl`: over an L2P / P2P element `cM` and `cL` are `0` by computation)
  | l2p _ _ | p2p _ _ _ | p2pTsm _ _ _ | p2pInner _ =>
    obtain ⟨r, m, l⟩ := res hc s
    exact ⟨fun lv i => (m lv i).trans rfl, fun lv i => (l lv i).trans rfl, r⟩

theorem applyCalls_sum {P : Call → Prop} {get : State → Nat} {cX : State → Elem → Nat}
    (hstep : ∀ c, P c → ∀ s, get (applyCall w L po po' s c) = get s + sumOver (elemsOfCall c) (cX s))
    (hstable : ∀ c, P c → ∀ c', P c' → ∀ s, ∀ e ∈ elemsOfCall c', cX (applyCall w L po po' s c) e = cX s e)
    (cs : List Call) (hcs : ∀ c ∈ cs, P c) (s : State) :
    get (applyCalls w L po po' s cs) = get s + sumOver (cs.flatMap elemsOfCall) (cX s) := by
  induction cs generalizing s with
  | nil => rfl
  | cons c cs ih =>
    have hc := hcs c List.mem_cons_self
    have hcs' : ∀ c' ∈ cs, P c' := fun c' h => hcs c' (List.mem_cons_of_mem _ h)
    have hrest : sumOver (cs.flatMap elemsOfCall) (cX (applyCall w L po po' s c)) = sumOver (cs.flatMap elemsOfCall) (cX s) := by
      refine sumOver_congr (fun e he => ?_)
      obtain ⟨c', hc', he⟩ := List.mem_flatMap.1 he
      exact hstable c hc c' (hcs' c' hc') s e he
    simp only [applyCalls, List.foldl_cons] at ih ⊢
    rw [ih hcs', hstep c hc, hrest, List.flatMap_cons, sumOver_append, Nat.add_assoc]

theorem applyCalls_frame {P : Call → Prop} {get : State → Nat}
    (hstep : ∀ c, P c → ∀ s, get (applyCall w L po po' s c) = get s)
    (cs : List Call) (hcs : ∀ c ∈ cs, P c) (s : State) : get (applyCalls w L po po' s cs) = get s := by
  have h := applyCalls_sum w L po po' (get := get) (cX := fun _ _ => 0)
    (fun c hc s => by rw [hstep c hc s, sumOver_zero (fun _ _ => rfl)]; rfl) (fun _ _ _ _ _ _ _ => rfl) cs hcs s
  rwa [sumOver_zero (fun _ _ => rfl)] at h

theorem phase_p2m (cs : List Call) (hcs : ∀ c ∈ cs, ∃ leaf, c = .p2m leaf (po' leaf)) (s : State) :
    (∀ lv i, (applyCalls w L po po' s cs).m lv i = s.m lv i + sumOver (cs.flatMap elemsOfCall) (cM w L po' s lv i)) ∧
    (∀ lv i, (applyCalls w L po po' s cs).l lv i = s.l lv i) ∧ (∀ p, (applyCalls w L po po' s cs).r p = s.r p) := by
  refine ⟨fun lv i => ?_, fun lv i => ?_, fun p => ?_⟩
  · refine applyCalls_sum w L po po' (get := (·.m lv i)) (cX := fun s => cM w L po' s lv i) ?_ ?_ cs hcs s
    · rintro _ ⟨leaf, rfl⟩ s
      exact (applyCall_effect w L po po' (.p2m leaf (po' leaf)) rfl s).1 lv i
    · rintro _ _ _ ⟨leaf', rfl⟩ s e he
      -- a P2M contribution reads particle data only
      rw [elemsOfCall, List.mem_singleton] at he
      subst he; rfl
  · exact applyCalls_frame w L po po' (get := (·.l lv i)) (by rintro _ ⟨leaf, rfl⟩ s; rfl) cs hcs s
  · exact applyCalls_frame w L po po' (get := (·.r p)) (by rintro _ ⟨leaf, rfl⟩ s; rfl) cs hcs s

/-- every call reads level `ℓ+1` and writes level `ℓ` -/
theorem phase_m2m (ℓ : Nat) (cs : List Call) (hcs : ∀ c ∈ cs, ∃ p ch, c = .m2m ℓ p ch) (s : State) :
    (∀ lv i, (applyCalls w L po po' s cs).m lv i = s.m lv i + sumOver (cs.flatMap elemsOfCall) (cM w L po' s lv i)) ∧
    (∀ lv i, (applyCalls w L po po' s cs).l lv i = s.l lv i) ∧ (∀ p, (applyCalls w L po po' s cs).r p = s.r p) := by
  refine ⟨fun lv i => ?_, fun lv i => ?_, fun p => ?_⟩
  · refine applyCalls_sum w L po po' (get := (·.m lv i)) (cX := fun s => cM w L po' s lv i) ?_ ?_ cs hcs s
    · rintro _ ⟨p, ch, rfl⟩ s
      exact (applyCall_effect w L po po' (.m2m ℓ p ch) trivial s).1 lv i
    · rintro _ ⟨p, ch, rfl⟩ _ ⟨p', ch', rfl⟩ s e he
      obtain ⟨x, _, rfl⟩ := List.mem_map.1 he
      have : ¬ (ℓ, p) = (ℓ + 1, x.1) := by intro e; injection e with e1 _; omega
      simp only [cM, applyCall, addM_m, if_neg this, Nat.add_zero]
  · exact applyCalls_frame w L po po' (get := (·.l lv i)) (by rintro _ ⟨p, ch, rfl⟩ s; rfl) cs hcs s
  · exact applyCalls_frame w L po po' (get := (·.r p)) (by rintro _ ⟨p, ch, rfl⟩ s; rfl) cs hcs s

/-- every call reads multipoles and writes locals -/
theorem phase_m2l (cs : List Call) (hcs : ∀ c ∈ cs, ∃ lv t srcs, c = .m2l lv t srcs) (s : State) :
    (∀ lv i, (applyCalls w L po po' s cs).l lv i = s.l lv i + sumOver (cs.flatMap elemsOfCall) (cL s lv i)) ∧
    (∀ lv i, (applyCalls w L po po' s cs).m lv i = s.m lv i) ∧ (∀ p, (applyCalls w L po po' s cs).r p = s.r p) := by
  refine ⟨fun lv i => ?_, fun lv i => ?_, fun p => ?_⟩
  · refine applyCalls_sum w L po po' (get := (·.l lv i)) (cX := fun s => cL s lv i) ?_ ?_ cs hcs s
    · rintro _ ⟨lv', t, srcs, rfl⟩ s
      exact (applyCall_effect w L po po' (.m2l lv' t srcs) trivial s).2.1 lv i
    · rintro _ ⟨lv', t, srcs, rfl⟩ _ ⟨lv'', t', srcs', rfl⟩ s e he
      obtain ⟨x, _, rfl⟩ := List.mem_map.1 he
      rfl
  · exact applyCalls_frame w L po po' (get := (·.m lv i)) (by rintro _ ⟨lv', t, srcs, rfl⟩ s; rfl) cs hcs s
  · exact applyCalls_frame w L po po' (get := (·.r p)) (by rintro _ ⟨lv', t, srcs, rfl⟩ s; rfl) cs hcs s

/-- every call reads level `ℓ` and writes level `ℓ+1` -/
theorem phase_l2l (ℓ : Nat) (cs : List Call) (hcs : ∀ c ∈ cs, ∃ p ch, c = .l2l ℓ p ch) (s : State) :
    (∀ lv i, (applyCalls w L po po' s cs).l lv i = s.l lv i + sumOver (cs.flatMap elemsOfCall) (cL s lv i)) ∧
    (∀ lv i, (applyCalls w L po po' s cs).m lv i = s.m lv i) ∧ (∀ p, (applyCalls w L po po' s cs).r p = s.r p) := by
  refine ⟨fun lv i => ?_, fun lv i => ?_, fun p => ?_⟩
  · refine applyCalls_sum w L po po' (get := (·.l lv i)) (cX := fun s => cL s lv i) ?_ ?_ cs hcs s
    · rintro _ ⟨p, ch, rfl⟩ s
      exact (applyCall_effect w L po po' (.l2l ℓ p ch) trivial s).2.1 lv i
    · rintro _ ⟨p, ch, rfl⟩ _ ⟨p', ch', rfl⟩ s e he
      obtain ⟨x, _, rfl⟩ := List.mem_map.1 he
      have : sumOver ch (fun c => if (ℓ + 1, c.1) = (ℓ, p') then s.l ℓ p else 0) = 0 :=
        sumOver_zero (fun c _ => if_neg (by intro e; injection e with e1 _; omega))
      simp only [cL, applyCall, (foldl_addL_children ch ℓ p s).1, this, Nat.add_zero]
  · exact applyCalls_frame w L po po' (get := (·.m lv i))
      (by rintro _ ⟨p, ch, rfl⟩ s; exact (foldl_addL_children ch ℓ p s).2.1 lv i) cs hcs s
  · exact applyCalls_frame w L po po' (get := (·.r p))
      (by rintro _ ⟨p', ch, rfl⟩ s; exact (foldl_addL_children ch ℓ p' s).2.2 p) cs hcs s

/-- every call reads locals and particle data and adds to particle results -/
theorem phase_results (cs : List Call) (hcs : ∀ c ∈ cs, isResultCall po c) (s : State) :
    (∀ p', (applyCalls w L po po' s cs).r p' = s.r p' + sumOver (cs.flatMap elemsOfCall) (cR w L po po' s p')) ∧
    (∀ lv i, (applyCalls w L po po' s cs).m lv i = s.m lv i) ∧ (∀ lv i, (applyCalls w L po po' s cs).l lv i = s.l lv i) := by
  refine ⟨fun p' => ?_, fun lv i => ?_, fun lv i => ?_⟩
  · refine applyCalls_sum w L po po' (get := (·.r p')) (cX := fun s => cR w L po po' s p') ?_ ?_ cs hcs s
    · exact fun c hc s => (result_call_effect w L po po' c hc s).1 p'
    · intro c hc _ _ s e _
      have hl := (result_call_effect w L po po' c hc s).2.2
      cases e <;> simp [cR, hl]
  · exact applyCalls_frame w L po po' (get := (·.m lv i)) (fun c hc s => (result_call_effect w L po po' c hc s).2.1 lv i) cs hcs s
  · exact applyCalls_frame w L po po' (get := (·.l lv i)) (fun c hc s => (result_call_effect w L po po' c hc s).2.2 lv i) cs hcs s

end Tbfmm
