import Tbfmm.Model.Kernel
import Tbfmm.Proofs.SumOver
namespace Tbfmm

theorem sumW_eq_sumOver (w : Nat → Nat) (ps : List Nat) : sumW w ps = sumOver ps w := rfl

/-- weight = indicator of the source particle `q` -/
def wq (q : Nat) : Nat → Nat := fun p => if p = q then 1 else 0

theorem sumW_wq (q : Nat) (ps : List Nat) : sumW (wq q) ps = ps.count q := by
  induction ps with
  | nil => rfl
  | cons p ps ih =>
    show wq q p + sumW (wq q) ps = _
    rw [ih, List.count_cons, Nat.add_comm]
    simp only [wq, beq_iff_eq]

theorem getD_insert_add {κ : Type} [BEq κ] [Hashable κ] [LawfulBEq κ] [DecidableEq κ] (m : Std.HashMap κ Nat) (k k' : κ) (v : Nat) :
    (m.insert k (m.getD k 0 + v)).getD k' 0 = m.getD k' 0 + if k = k' then v else 0 := by
  rw [Std.HashMap.getD_insert]
  by_cases h : k = k'
  · rw [if_pos (beq_iff_eq.2 h), if_pos h, h]
  · rw [if_neg (mt beq_iff_eq.1 h), if_neg h, Nat.add_zero]

@[simp] theorem addM_m (s : State) (l i v l' i' : Nat) : (s.addM l i v).m l' i' = s.m l' i' + if (l, i) = (l', i') then v else 0 :=
  getD_insert_add s.mult (l, i) (l', i') v
@[simp] theorem addM_l (s : State) (l i v l' i' : Nat) : (s.addM l i v).l l' i' = s.l l' i' := rfl
@[simp] theorem addM_r (s : State) (l i v p : Nat) : (s.addM l i v).r p = s.r p := rfl
@[simp] theorem addL_l (s : State) (l i v l' i' : Nat) : (s.addL l i v).l l' i' = s.l l' i' + if (l, i) = (l', i') then v else 0 :=
  getD_insert_add s.loc (l, i) (l', i') v
@[simp] theorem addL_m (s : State) (l i v l' i' : Nat) : (s.addL l i v).m l' i' = s.m l' i' := rfl
@[simp] theorem addL_r (s : State) (l i v p : Nat) : (s.addL l i v).r p = s.r p := rfl
@[simp] theorem addR_r (s : State) (p v p' : Nat) : (s.addR p v).r p' = s.r p' + if p = p' then v else 0 :=
  getD_insert_add s.rhs p p' v
@[simp] theorem addR_m (s : State) (p v l i : Nat) : (s.addR p v).m l i = s.m l i := rfl
@[simp] theorem addR_l (s : State) (p v l i : Nat) : (s.addR p v).l l i = s.l l i := rfl

theorem empty_m (l i : Nat) : ({} : State).m l i = 0 := by simp [State.m]
theorem empty_l (l i : Nat) : ({} : State).l l i = 0 := by simp [State.l]
theorem empty_r (p : Nat) : ({} : State).r p = 0 := by simp [State.r]

theorem foldl_addR (ps : List Nat) (f : State → Nat → Nat) (hf : ∀ s p v p', f (s.addR p v) p' = f s p') (s : State) :
    (∀ p', (ps.foldl (fun s p => s.addR p (f s p)) s).r p' = s.r p' + ps.count p' * f s p') ∧
    (∀ l i, (ps.foldl (fun s p => s.addR p (f s p)) s).m l i = s.m l i) ∧
    (∀ l i, (ps.foldl (fun s p => s.addR p (f s p)) s).l l i = s.l l i) := by
  induction ps generalizing s with
  | nil => simp
  | cons p ps ih =>
    obtain ⟨h1, h2, h3⟩ := ih (s.addR p (f s p))
    simp only [List.foldl_cons]
    refine ⟨?_, ?_, ?_⟩
    · intro p'
      rw [h1, addR_r, hf, List.count_cons]
      by_cases h : p = p'
      · subst h; simp [Nat.add_mul]; omega
      · simp [h]
    · intro l i; rw [h2, addR_m]
    · intro l i; rw [h3, addR_l]

theorem foldl_addL_children (children : List (Nat × Nat)) (level p : Nat) (s : State) :
    (∀ l i, (children.foldl (fun s c => s.addL (level+1) c.1 (s.l level p)) s).l l i =
        s.l l i + sumOver children (fun c => if (level+1, c.1) = (l, i) then s.l level p else 0)) ∧
    (∀ l i, (children.foldl (fun s c => s.addL (level+1) c.1 (s.l level p)) s).m l i = s.m l i) ∧
    (∀ q, (children.foldl (fun s c => s.addL (level+1) c.1 (s.l level p)) s).r q = s.r q) := by
  induction children generalizing s with
  | nil => simp [sumOver]
  | cons c cs ih =>
    obtain ⟨h1, h2, h3⟩ := ih (s.addL (level+1) c.1 (s.l level p))
    have hp : (s.addL (level+1) c.1 (s.l level p)).l level p = s.l level p := by
      have : ¬ (level + 1, c.1) = (level, p) := by intro e; injection e with e1 _; omega
      rw [addL_l, if_neg this, Nat.add_zero]
    simp only [List.foldl_cons]
    refine ⟨?_, ?_, ?_⟩
    · intro l i; rw [h1, hp, addL_l, sumOver_cons, Nat.add_assoc]
    · intro l i; rw [h2, addL_m]
    · intro q; rw [h3, addL_r]

end Tbfmm
