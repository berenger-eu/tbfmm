import Tbfmm.Proofs.Images
/-! The three pair lists of the specification have one shape, `triples`.  Suffixes: `_np`: `periodic = false`; `_per`: `true`;
unsuffixed: either (`mem_specP2P_gen` is the `IsShift` form of `mem_specP2P`). -/
namespace Tbfmm

section
variable {α β γ ε : Type}

def triples (T : List α) (S : List β) (K : List γ) (test : α → β → γ → Bool) (mk : α → β → γ → ε) : List ε :=
  T.flatMap fun t => S.flatMap fun s => K.filterMap fun k => if test t s k then some (mk t s k) else none

theorem mem_triples {T : List α} {S : List β} {K : List γ} {test : α → β → γ → Bool} {mk : α → β → γ → ε} {e : ε} :
    e ∈ triples T S K test mk ↔ ∃ t ∈ T, ∃ s ∈ S, ∃ k ∈ K, test t s k = true ∧ mk t s k = e := by
  simp only [triples, List.mem_flatMap, List.mem_filterMap, Option.ite_none_right_eq_some, Option.some.injEq]

theorem mem_triples_ends {T : List α} {S : List β} {K : List γ} {test : α → β → γ → Bool} {mk : α → β → γ → ε}
    (ends : ε → α × β) (hends : ∀ t s k, ends (mk t s k) = (t, s)) {e : ε} :
    e ∈ triples T S K test mk ↔
      (ends e).1 ∈ T ∧ (ends e).2 ∈ S ∧ ∃ k ∈ K, test (ends e).1 (ends e).2 k = true ∧ mk (ends e).1 (ends e).2 k = e := by
  rw [mem_triples]
  constructor
  · rintro ⟨t, ht, s, hs, k, hk, hc, rfl⟩
    rw [hends]
    exact ⟨ht, hs, k, hk, hc, rfl⟩
  · rintro ⟨ht, hs, k, hk, hc, he⟩
    exact ⟨_, ht, _, hs, k, hk, hc, he⟩

theorem nodup_triples {T : List α} {S : List β} {K : List γ} {test : α → β → γ → Bool} {mk : α → β → γ → ε}
    (ends : ε → α × β) (hends : ∀ t s k, ends (mk t s k) = (t, s))
    (hT : T.Nodup) (hS : S.Nodup) (hK : K.Nodup) (hinj : ∀ t s, ∀ k ∈ K, ∀ k' ∈ K, mk t s k = mk t s k' → k = k') :
    (triples T S K test mk).Nodup := by
  refine nodup_flatMap_of_key (fun e => (ends e).1) hT (fun t _ => ?_) ?_
  · refine nodup_flatMap_of_key (fun e => (ends e).2) hS (fun s _ => ?_) ?_
    · rw [List.Nodup, List.pairwise_filterMap]
      refine hK.imp_of_mem ?_
      intro k k' hk hk' hne b hb b' hb' e
      rw [Option.ite_none_right_eq_some, Option.some.injEq] at hb hb'
      exact hne (hinj t s k hk k' hk' (hb.2.trans (e.trans hb'.2.symm)))
    · intro s _ e he
      obtain ⟨k, _, hk⟩ := List.mem_filterMap.1 he
      rw [Option.ite_none_right_eq_some, Option.some.injEq] at hk
      rw [← hk.2, hends]
  · intro t _ e he
    obtain ⟨s, _, he⟩ := List.mem_flatMap.1 he
    obtain ⟨k, _, hk⟩ := List.mem_filterMap.1 he
    rw [Option.ite_none_right_eq_some, Option.some.injEq] at hk
    rw [← hk.2, hends]
end

def levelShifts (D : Nat) (periodic : Bool) (l : Nat) : List (List Int) :=
  (imageShifts D periodic).map fun k => k.map (· * (2:Int)^l)

theorem levelShifts_false (D l : Nat) : levelShifts D false l = [List.replicate D 0] := by
  simp [levelShifts, imageShifts]

theorem exists_levelShifts_false (D l : Nat) (P : List Int → Prop) :
    (∃ k ∈ levelShifts D false l, P k) ↔ P (List.replicate D 0) := by
  simp only [levelShifts_false, List.mem_singleton, exists_eq_left]

theorem mem_triples_np {T S : List Nat} {D l : Nat} {test : Nat → Nat → List Int → Bool} {mk : Nat → Nat → List Int → Elem} {e : Elem} :
    e ∈ triples T S (levelShifts D false l) test mk ↔
      ∃ t ∈ T, ∃ s ∈ S, test t s (List.replicate D 0) = true ∧ mk t s (List.replicate D 0) = e := by
  simp only [mem_triples, exists_levelShifts_false]

def Elem.ends : Elem → Nat × Nat
  | .m2l _ t s _ | .p2p s t _ | .p2pTsm s t _ => (t, s)
  | _ => (0, 0)

theorem nodup_triples_np {T S : List Nat} {D l : Nat} {test : Nat → Nat → List Int → Bool} {mk : Nat → Nat → List Int → Elem}
    (hT : T.Nodup) (hS : S.Nodup) (hmk : ∀ t s k, (mk t s k).ends = (t, s)) :
    (triples T S (levelShifts D false l) test mk).Nodup := by
  rw [levelShifts_false]
  exact nodup_triples Elem.ends hmk hT hS (List.pairwise_singleton _ _) (by simp)

/-- the specification's transfer test for target `t`, source `s` shifted by `k` at level `l` (`per` = per shift `k`, here and in
    `perP2PTest`: the same test serves `periodic = false` with `k = 0`) -/
def perTest (D l t s : Nat) (k : List Int) : Bool :=
  adjV ((toI (decode D l t)).map (· / 2)) ((vadd (toI (decode D l s)) k).map (· / 2)) &&
    !adjV (toI (decode D l t)) (vadd (toI (decode D l s)) k)

/-- the code the specification attaches to a (target, source) pair of level `ℓ` -/
def m2lCode (D ℓ t s : Nat) : Nat := code7 (vsub (toI (decode D ℓ s)) (toI (decode D ℓ t)))

theorem noM2L_iff (periodic : Bool) (l : Nat) :
    ((!periodic && decide (l < 2)) || (periodic && decide (l < 1))) = true ↔ l < (bif periodic then 1 else 2) := by
  cases periodic <;> simp

theorem specM2LLevel_eq (D : Nat) (periodic : Bool) (l : Nat) (tgts srcs : List Nat) :
    specM2LLevel D periodic l tgts srcs = if l < (bif periodic then 1 else 2) then [] else
      triples tgts srcs (levelShifts D periodic l) (perTest D l)
        fun t s k => Elem.m2l l t s (code7 (vsub (vadd (toI (decode D l s)) k) (toI (decode D l t)))) := by
  unfold specM2LLevel
  simp only [noM2L_iff, List.flatMap_map]
  rfl

theorem specM2LLevel_by_target (D : Nat) (periodic : Bool) (l : Nat) (tgts srcs : List Nat) :
    specM2LLevel D periodic l tgts srcs = tgts.flatMap fun t => specM2LLevel D periodic l [t] srcs := by
  simp only [specM2LLevel_eq]
  split
  · simp
  · simp only [triples, List.flatMap_singleton]

theorem mem_specM2LLevel {D : Nat} {periodic : Bool} {l : Nat} {tgts srcs : List Nat} {t s c : Nat} :
    Elem.m2l l t s c ∈ specM2LLevel D periodic l tgts srcs ↔
      (bif periodic then 1 else 2) ≤ l ∧ t ∈ tgts ∧ s ∈ srcs ∧ ∃ k ∈ levelShifts D periodic l, perTest D l t s k = true ∧
        c = code7 (vsub (vadd (toI (decode D l s)) k) (toI (decode D l t))) := by
  rw [specM2LLevel_eq]
  split
  · simp only [List.not_mem_nil, false_iff]; omega
  · rw [mem_triples_ends Elem.ends (fun _ _ _ => rfl), and_iff_right (by omega : (bif periodic then 1 else 2) ≤ l)]
    simp only [Elem.ends, Elem.m2l.injEq, true_and, eq_comm (b := c)]

theorem mem_specM2L_np {D l : Nat} {tgts srcs : List Nat} {t s c : Nat} :
    Elem.m2l l t s c ∈ specM2LLevel D false l tgts srcs ↔
      2 ≤ l ∧ t ∈ tgts ∧ s ∈ srcs ∧
      adjV ((toI (decode D l t)).map (· / 2)) ((toI (decode D l s)).map (· / 2)) = true ∧
      adjV (toI (decode D l t)) (toI (decode D l s)) = false ∧ c = m2lCode D l t s := by
  simp only [mem_specM2LLevel, cond_false, exists_levelShifts_false, perTest, vadd_decode_zero, Bool.and_eq_true, Bool.not_eq_true',
    and_assoc, m2lCode]

theorem exists_m2l_np (D l : Nat) (tgts srcs : List Nat) (t s : Nat) :
    (∃ c, Elem.m2l l t s c ∈ specM2LLevel D false l tgts srcs) ↔
      2 ≤ l ∧ t ∈ tgts ∧ s ∈ srcs ∧ perTest D l t s (List.replicate D 0) = true := by
  simp only [mem_specM2LLevel, cond_false, exists_levelShifts_false, exists_and_left, exists_eq, and_true]

theorem code_of_mem_specM2L_np {D ℓ : Nat} {T S : List Nat} {t s c : Nat} (h : Elem.m2l ℓ t s c ∈ specM2LLevel D false ℓ T S) :
    c = m2lCode D ℓ t s :=
  (mem_specM2L_np.1 h).2.2.2.2.2

theorem spec_elem_form (D ℓ : Nat) (tg sr : List Nat) (e : Elem) (he : e ∈ specM2LLevel D false ℓ tg sr) :
    ∃ t s, e = Elem.m2l ℓ t s (m2lCode D ℓ t s) ∧ t ∈ tg ∧ s ∈ sr := by
  rw [specM2LLevel_eq] at he
  split at he
  · cases he
  · obtain ⟨t, ht, s, hs, _, rfl⟩ := mem_triples_np.1 he
    exact ⟨t, s, by rw [vadd_decode_zero, m2lCode], ht, hs⟩

/-- the non-periodic transfer specification of a level never lists a (target, source) pair twice -/
theorem specM2L_np_nodup (D l : Nat) (tgts srcs : List Nat) (ht : tgts.Nodup) (hs : srcs.Nodup) :
    (specM2LLevel D false l tgts srcs).Nodup := by
  rw [specM2LLevel_eq]
  split
  · exact List.nodup_nil
  · exact nodup_triples_np ht hs (fun _ _ _ => rfl)

/-- the specification's direct-pair test for target `t`, source `s` shifted by `k` at the leaf level -/
def perP2PTest (D L t s : Nat) (k : List Int) : Bool :=
  (vsub (vadd (toI (decode D L s)) k) (toI (decode D L t))).all (fun o => decide (o.natAbs ≤ 1)) &&
  !(vsub (vadd (toI (decode D L s)) k) (toI (decode D L t))).all (· == 0) &&
  decide ((3^D)/2 < code3 (vsub (vadd (toI (decode D L s)) k) (toI (decode D L t))))

/-- the code the specification attaches to a (target, source) pair of leaves -/
def p2pCode (D L t s : Nat) : Nat := code3 (vsub (toI (decode D L s)) (toI (decode D L t)))

theorem specP2P_eq (D : Nat) (periodic : Bool) (L : Nat) (leaves : List Nat) :
    specP2P D periodic L leaves = triples leaves leaves (levelShifts D periodic L) (perP2PTest D L)
      fun t s k => Elem.p2p s t (code3 (vsub (vadd (toI (decode D L s)) k) (toI (decode D L t)))) := by
  unfold specP2P
  simp only [List.flatMap_map]
  rfl

theorem mem_specP2P {D : Nat} {periodic : Bool} {L : Nat} {leaves : List Nat} {t s c : Nat} :
    Elem.p2p s t c ∈ specP2P D periodic L leaves ↔
      t ∈ leaves ∧ s ∈ leaves ∧ ∃ k ∈ levelShifts D periodic L, perP2PTest D L t s k = true ∧
        c = code3 (vsub (vadd (toI (decode D L s)) k) (toI (decode D L t))) := by
  rw [specP2P_eq, mem_triples_ends Elem.ends (fun _ _ _ => rfl)]
  simp only [Elem.ends, Elem.p2p.injEq, true_and, eq_comm (b := c)]

theorem mem_specP2P_np {D L : Nat} {leaves : List Nat} {t s c : Nat} :
    Elem.p2p s t c ∈ specP2P D false L leaves ↔
      t ∈ leaves ∧ s ∈ leaves ∧
      (vsub (toI (decode D L s)) (toI (decode D L t))).all (fun o => decide (o.natAbs ≤ 1)) = true ∧
      (vsub (toI (decode D L s)) (toI (decode D L t))).all (· == 0) = false ∧
      (3^D)/2 < p2pCode D L t s ∧ c = p2pCode D L t s := by
  simp only [mem_specP2P, exists_levelShifts_false, perP2PTest, vadd_decode_zero, Bool.and_eq_true, Bool.not_eq_true',
    decide_eq_true_eq, and_assoc, p2pCode]

theorem exists_p2p_np (D L : Nat) (leaves : List Nat) (t s : Nat) :
    (∃ c, Elem.p2p s t c ∈ specP2P D false L leaves) ↔
      t ∈ leaves ∧ s ∈ leaves ∧ perP2PTest D L t s (List.replicate D 0) = true := by
  simp only [mem_specP2P, exists_levelShifts_false, exists_and_left, exists_eq, and_true]

theorem specP2P_elem_form (D L : Nat) (leaves : List Nat) (e : Elem) (he : e ∈ specP2P D false L leaves) :
    ∃ t s, e = Elem.p2p s t (p2pCode D L t s) ∧ t ∈ leaves ∧ s ∈ leaves := by
  rw [specP2P_eq] at he
  obtain ⟨t, ht, s, hs, _, rfl⟩ := mem_triples_np.1 he
  exact ⟨t, s, by rw [vadd_decode_zero, p2pCode], ht, hs⟩

theorem specP2P_np_nodup (D L : Nat) (leaves : List Nat) (hn : leaves.Nodup) : (specP2P D false L leaves).Nodup := by
  rw [specP2P_eq]
  exact nodup_triples_np hn hn (fun _ _ _ => rfl)

theorem specP2PTsm_eq (D : Nat) (periodic : Bool) (L : Nat) (tgts srcs : List Nat) :
    specP2PTsm D periodic L tgts srcs = triples tgts srcs (levelShifts D periodic L)
      (fun t s k => (vsub (vadd (toI (decode D L s)) k) (toI (decode D L t))).all fun o => decide (o.natAbs ≤ 1))
      fun t s k => Elem.p2pTsm s t (code3 (vsub (vadd (toI (decode D L s)) k) (toI (decode D L t)))) := by
  unfold specP2PTsm
  simp only [List.flatMap_map]
  rfl

theorem mem_specP2PTsm_np {D L : Nat} {tgts srcs : List Nat} {t s c : Nat} :
    Elem.p2pTsm s t c ∈ specP2PTsm D false L tgts srcs ↔
      t ∈ tgts ∧ s ∈ srcs ∧ Far.adj (decode D L t) (decode D L s) ∧ c = p2pCode D L t s := by
  have e := adjV_eq_all (a := toI (decode D L t)) (b := toI (decode D L s)) (by simp)
  rw [specP2PTsm_eq, mem_triples_ends Elem.ends (fun _ _ _ => rfl)]
  simp only [Elem.ends, Elem.p2pTsm.injEq, true_and, eq_comm (b := c), exists_levelShifts_false, vadd_decode_zero,
    ← adjV_toI, e, p2pCode]

theorem adj_of_mem_specP2PTsm_np {D L : Nat} {T S : List Nat} {t s c : Nat} (h : Elem.p2pTsm s t c ∈ specP2PTsm D false L T S) :
    Far.adj (decode D L t) (decode D L s) :=
  (mem_specP2PTsm_np.1 h).2.2.1

/-- the one-sided direct specification lists a (target, source) pair at most once -/
theorem specP2PTsm_np_nodup (D L : Nat) (tgts srcs : List Nat) (ht : tgts.Nodup) (hs : srcs.Nodup) :
    (specP2PTsm D false L tgts srcs).Nodup := by
  rw [specP2PTsm_eq]
  exact nodup_triples_np ht hs (fun _ _ _ => rfl)

/-- the shift vectors considered by the specification, index-wise -/
def IsShift (D : Nat) (periodic : Bool) (lim : Int) (k : List Int) : Prop :=
  k.length = D ∧ ∀ i (h : i < k.length), if periodic then (k[i] = -lim ∨ k[i] = 0 ∨ k[i] = lim) else k[i] = 0

theorem mem_levelShifts (D : Nat) (periodic : Bool) (l : Nat) (k : List Int) :
    k ∈ levelShifts D periodic l ↔ IsShift D periodic (2^l) k := by
  have hlim := one_le_two_pow l
  rw [levelShifts]
  generalize (2:Int)^l = lim at hlim ⊢
  simp only [List.mem_map, mem_imageShifts, IsShift]
  constructor
  · rintro ⟨m, ⟨hl, h⟩, rfl⟩
    refine ⟨by simpa using hl, fun i hi => ?_⟩
    have hi' : i < m.length := by simpa using hi
    obtain ⟨h1, h2⟩ := h m[i] (List.getElem_mem hi')
    rw [List.getElem_map]
    cases periodic
    · simp [h2 rfl]
    · have : m[i] = -1 ∨ m[i] = 0 ∨ m[i] = 1 := by omega
      rcases this with e | e | e <;> simp [e]
  · rintro ⟨hl, h⟩
    have hlim0 : lim ≠ 0 := Int.ne_of_gt hlim
    have key : ∀ i (hi : i < k.length), k[i] / lim * lim = k[i] ∧ (-1 ≤ k[i] / lim ∧ k[i] / lim ≤ 1) ∧
        (periodic = false → k[i] / lim = 0) := by
      intro i hi
      have := h i hi
      cases periodic
      · simp only [Bool.false_eq_true, if_false] at this
        simp [this]
      · simp only [if_true] at this
        rcases this with e | e | e <;> rw [e]
        · rw [← Int.neg_one_mul lim, Int.mul_ediv_cancel _ hlim0]; simp
        · simp
        · rw [Int.ediv_self hlim0]; simp
    refine ⟨k.map (· / lim), ⟨by simpa using hl, fun y hy => ?_⟩, List.ext_getElem (by simp) fun i _ h2 => by simpa using (key i h2).1⟩
    obtain ⟨x, hx, rfl⟩ := List.mem_map.1 hy
    obtain ⟨i, hi, rfl⟩ := List.mem_iff_getElem.1 hx
    exact (key i hi).2

theorem mem_specM2L_per (D l : Nat) (tgts srcs : List Nat) (t s c : Nat) :
    Elem.m2l l t s c ∈ specM2LLevel D true l tgts srcs ↔
      1 ≤ l ∧ t ∈ tgts ∧ s ∈ srcs ∧ ∃ k, IsShift D true (2^l) k ∧ perTest D l t s k = true ∧
        c = code7 (vsub (vadd (toI (decode D l s)) k) (toI (decode D l t))) := by
  simpa only [mem_levelShifts, cond_true] using mem_specM2LLevel (periodic := true)

theorem mem_specP2P_gen (D : Nat) (periodic : Bool) (L : Nat) (leaves : List Nat) (t s c : Nat) :
    Elem.p2p s t c ∈ specP2P D periodic L leaves ↔
      t ∈ leaves ∧ s ∈ leaves ∧ ∃ k, IsShift D periodic (2^L) k ∧ perP2PTest D L t s k = true ∧
        c = code3 (vsub (vadd (toI (decode D L s)) k) (toI (decode D L t))) := by
  simpa only [mem_levelShifts] using mem_specP2P

end Tbfmm
