import Tbfmm.Proofs.SliceByGroup
import Tbfmm.Proofs.RunBatching
import Tbfmm.Proofs.InterElem
/-! The M2L pass of a level and the P2P pass: the internal/external split, the sort-and-slice mapping and (M2L) the run
batching lose and duplicate nothing, so a pass is the per-cell lists filtered by presence. -/
namespace Tbfmm

theorem splitInOut_present_mem (gs : List Group) (inv : GroupsInv gs) (g : Group) (hg : g ∈ gs) (all : List Inter) :
    (((splitInOut g true all).2.filter (presentFrom gs 0)) ++ (splitInOut g true all).1).Perm (all.filter (presentFrom gs 0)) := by
  simp only [splitInOut, Bool.not_true, Bool.false_or]
  -- split the present entries by the range test instead; inside the range of the group, present anywhere ⟺ present in the group
  refine List.perm_append_comm.trans (.trans (.of_eq ?_) (List.filter_append_perm
    (fun x => decide (firstOf g ≤ x.src) && decide (x.src ≤ lastOf g)) (all.filter (presentFrom gs 0))))
  rw [List.filter_filter, List.filter_filter, List.filter_filter]
  congr 1
  · refine List.filter_congr fun x _ => ?_
    by_cases hr : (decide (firstOf g ≤ x.src) && decide (x.src ≤ lastOf g)) = true
    · have hr' := hr
      simp only [Bool.and_eq_true, decide_eq_true_eq] at hr'
      rw [hr, Bool.true_and, Bool.true_and, presentFrom_zero, Bool.eq_iff_iff, List.contains_iff_mem, List.contains_iff_mem]
      exact ⟨fun h => List.mem_flatten.mpr ⟨g, hg, h⟩, fun h => inv.mem_of_range hg h hr'.1 hr'.2⟩
    · rw [Bool.not_eq_true] at hr
      rw [hr, Bool.false_and, Bool.false_and]
  · exact List.filter_congr fun x _ => Bool.and_comm _ _

theorem splitInOut_present (gs : List Group) (inv : GroupsInv gs) (i : Nat) (hi : i < gs.length) (all : List Inter) :
    (((splitInOut (gs.getD i []) true all).2.filter (presentFrom gs 0)) ++ (splitInOut (gs.getD i []) true all).1).Perm (all.filter (presentFrom gs 0)) :=
  splitInOut_present_mem gs inv _ (getD_mem gs [] hi) all

theorem splitInOut_all (g : Group) (all : List Inter) :
    ((splitInOut g false all).2 ++ (splitInOut g false all).1).Perm all := by
  simp only [splitInOut, Bool.not_false, Bool.true_or, Bool.and_true]
  exact List.perm_append_comm.trans (List.filter_append_perm _ _)

/-- **M2L pass of one level**: for any grouping, as a multiset exactly the per-cell list entries whose source cell
    exists at the level -/
theorem m2lLevel_elems (D : Nat) (periodic : Bool) (level : Nat) (gs : List Group) (inv : GroupsInv gs) :
    ((m2lLevel D periodic level gs).flatMap elemsOfCall).Perm
      ((gs.flatMap fun g => ((g.zipIdx).flatMap fun (c, k) => ilistCell D periodic level c k).filter (presentFrom gs 0)).map (elemM2L level)) := by
  rw [List.map_flatMap]
  refine flatMap_flatMap_perm fun g hg => ?_
  -- (`m2lInGroup_elems`, `m2lBetween_elems` spell `elemM2L level` out as a lambda: the same by `rfl`)
  simp only [List.flatMap_append, m2lInGroup_elems]
  have p2 := (splitInOut_present_mem gs inv g hg ((g.zipIdx).flatMap fun (c, k) => ilistCell D periodic level c k)).map (elemM2L level)
  rw [List.map_append] at p2
  exact ((slices_elems (m2lBetween level) (m2lBetween_elems level) gs inv).append_right _).trans p2

theorem m2lLevelTsm_elems (D : Nat) (periodic : Bool) (level : Nat) (tg sg : List Group) (inv : GroupsInv sg) :
    ((m2lLevelTsm D periodic level tg sg).flatMap elemsOfCall).Perm
      ((tg.flatMap fun g => ((g.zipIdx).flatMap fun (c, k) => ilistCell D periodic level c k).filter (presentFrom sg 0)).map (elemM2L level)) := by
  rw [List.map_flatMap]
  refine flatMap_flatMap_perm fun g _ => ?_
  exact (slices_elems (m2lBetween level) (m2lBetween_elems level) sg inv).trans (((splitInOut_all g _).filter _).map _)

theorem m2lLevel_form {D : Nat} {periodic : Bool} {ℓ : Nat} {gs : List Group} :
    ∀ c ∈ m2lLevel D periodic ℓ gs, ∃ t srcs, c = Call.m2l ℓ t srcs := by
  intro c hc
  unfold m2lLevel at hc
  rw [List.mem_flatMap] at hc
  obtain ⟨g, _, hc⟩ := hc
  simp only [List.mem_append, List.mem_flatMap] at hc
  rcases hc with ⟨p, _, hc⟩ | hc
  · obtain ⟨t, ss, rfl, _⟩ := m2lBetween_nonempty ℓ _ _ c hc
    exact ⟨t, ss, rfl⟩
  · obtain ⟨t, ss, rfl, _⟩ := m2lInGroup_nonempty ℓ _ c hc
    exact ⟨t, ss, rfl⟩

theorem m2lLevelTsm_form {D : Nat} {periodic : Bool} {ℓ : Nat} {tg sg : List Group} :
    ∀ c ∈ m2lLevelTsm D periodic ℓ tg sg, ∃ t srcs, c = Call.m2l ℓ t srcs := by
  intro c hc
  unfold m2lLevelTsm at hc
  rw [List.mem_flatMap] at hc
  obtain ⟨g, _, hc⟩ := hc
  simp only [List.mem_flatMap] at hc
  obtain ⟨p, _, hc⟩ := hc
  obtain ⟨t, ss, rfl, _⟩ := m2lBetween_nonempty ℓ _ _ c hc
  exact ⟨t, ss, rfl⟩

theorem map_flatMap_elems {α} {l : List α} (mk : α → Call) (e : α → Elem) (hmk : ∀ x, elemsOfCall (mk x) = [e x]) :
    (l.map mk).flatMap elemsOfCall = l.map e := by
  induction l with
  | nil => rfl
  | cons x l ih => rw [List.map_cons, List.flatMap_cons, hmk, ih]; rfl

theorem guarded_elems {mk : Inter → Call} (e : Inter → Elem) (hmk : ∀ x, elemsOfCall (mk x) = [e x]) (g : Group) (sl : List Inter) :
    (sl.filterMap fun x => if g.contains x.src then some (mk x) else none).flatMap elemsOfCall =
      (sl.filter fun x => g.contains x.src).map e := by
  rw [← List.filterMap_filter, List.filterMap_eq_map', map_flatMap_elems mk e hmk]

/-- **P2P pass**: for any grouping, the upper-half neighbour-list entries whose source leaf exists (each unordered
    adjacent pair from one side) and one in-leaf interaction per leaf -/
theorem p2pAll_elems (D : Nat) (periodic : Bool) (H : Nat) (gs : List Group) (inv : GroupsInv gs) :
    ((p2pAll D periodic H gs).flatMap elemsOfCall).Perm
      (gs.flatMap fun g => ((((g.zipIdx).flatMap fun (c, k) => nlistCell D periodic (H-1) c k true).filter (presentFrom gs 0)).map elemP2P) ++ g.map Elem.p2pInner) := by
  refine flatMap_flatMap_perm fun g hg => ?_
  simp only [List.flatMap_append]
  rw [map_flatMap_elems _ elemP2P fun _ => rfl, map_flatMap_elems _ Elem.p2pInner fun _ => rfl]
  have p2 := (splitInOut_present_mem gs inv g hg ((g.zipIdx).flatMap fun (c, k) => nlistCell D periodic (H-1) c k true)).map elemP2P
  rw [List.map_append] at p2
  exact (((slices_elems _ (guarded_elems elemP2P fun _ => rfl) gs inv).append_right _).trans p2).append_right _

/-- **P2P pass, target/source mode**: the full neighbour list and the self entry of every target leaf, kept when the
    source leaf exists -/
theorem p2pAllTsm_elems (D : Nat) (periodic : Bool) (H : Nat) (tg sg : List Group) (inv : GroupsInv sg) :
    ((p2pAllTsm D periodic H tg sg).flatMap elemsOfCall).Perm
      ((tg.flatMap fun g => ((((g.zipIdx).flatMap fun (c, k) => nlistCell D periodic (H-1) c k false) ++ selfListBlock D g).filter (presentFrom sg 0))).map elemP2PTsm) := by
  rw [List.map_flatMap]
  refine flatMap_flatMap_perm fun g _ => ?_
  exact (slices_elems _ (guarded_elems elemP2PTsm fun _ => rfl) sg inv).trans ((((splitInOut_all g _).append_right _).filter _).map _)

theorem p2pAll_form {D : Nat} {periodic : Bool} {H : Nat} {gs : List Group} :
    ∀ c ∈ p2pAll D periodic H gs, (∃ s t k, c = Call.p2p s t k) ∨ ∃ l, c = Call.p2pInner l := by
  intro c hc
  unfold p2pAll at hc
  rw [List.mem_flatMap] at hc
  obtain ⟨g, _, hc⟩ := hc
  simp only [List.mem_append, List.mem_flatMap, List.mem_map, List.mem_filterMap] at hc
  rcases hc with (⟨p, _, x, _, hx⟩ | ⟨x, _, rfl⟩) | ⟨l, _, rfl⟩
  · split at hx
    · injection hx with hx; exact Or.inl ⟨_, _, _, hx.symm⟩
    · simp at hx
  · exact Or.inl ⟨_, _, _, rfl⟩
  · exact Or.inr ⟨_, rfl⟩

theorem p2pAllTsm_form {D : Nat} {periodic : Bool} {H : Nat} {tg sg : List Group} :
    ∀ c ∈ p2pAllTsm D periodic H tg sg, ∃ s t k, c = Call.p2pTsm s t k := by
  intro c hc
  unfold p2pAllTsm at hc
  rw [List.mem_flatMap] at hc
  obtain ⟨g, _, hc⟩ := hc
  simp only [List.mem_flatMap, List.mem_filterMap] at hc
  obtain ⟨p, _, x, _, hx⟩ := hc
  split at hx
  · injection hx with hx; exact ⟨_, _, _, hx.symm⟩
  · simp at hx

end Tbfmm
