import Tbfmm.Proofs.Morton
import Tbfmm.Proofs.Vec
import Tbfmm.Proofs.Far
/-! Image number `m` of cell `s` of level `l` sits at `virt D l s m`, `m` boxes of `2^l` cells away.  `upI l` of a position is its
image number, the remainders are its cell's coordinates: `q ↦ (cellOf D l q, upI l q)` and `virt` are inverse. -/
namespace Tbfmm

theorem one_le_two_pow (b : Nat) : (1:Int) ≤ 2^b := Int.pow_pos (by omega)

/-- `omega` pushes the cast inside and is left with the atom `↑2 ^ b`, which it does not identify with the goals' `2 ^ b` -/
theorem cast_two_pow (b : Nat) : ((2^b : Nat) : Int) = (2:Int)^b := Int.natCast_pow 2 b

theorem toI_decode_bounds (D b i : Nat) (j : Nat) (h : j < (toI (decode D b i)).length) :
    0 ≤ (toI (decode D b i))[j] ∧ (toI (decode D b i))[j] < (2:Int)^b := by
  have := decode_lt D b i _ (List.getElem_mem (show j < (decode D b i).length by simpa using h))
  have := cast_two_pow b
  rw [toI_get, Int.ofNat_eq_natCast]
  omega

theorem vadd_decode_zero (D l s : Nat) : vadd (toI (decode D l s)) (List.replicate D 0) = toI (decode D l s) := by
  simpa using vadd_zero (toI (decode D l s))

namespace FarInt

/-- ancestor `k` levels up (floor division) -/
def upI (k : Nat) (v : List Int) : List Int := v.map (· / (2:Int)^k)

theorem upI_zero (v : List Int) : upI 0 v = v := by simp [upI]

@[simp] theorem upI_length (k : Nat) (v : List Int) : (upI k v).length = v.length := by simp [upI]

theorem upI_succ (k : Nat) (v : List Int) : upI (k+1) v = (upI k v).map (· / 2) := by
  simp only [upI, List.map_map]
  refine List.map_congr_left fun x _ => ?_
  simp only [Function.comp, Int.pow_succ, Int.ediv_ediv_of_nonneg (Int.le_of_lt (Int.pow_pos (by omega) : (0:Int) < 2^k))]

theorem adjV_upI_succ (a b : List Int) (k : Nat) (h : adjV (upI k a) (upI k b) = true) : adjV (upI (k+1) a) (upI (k+1) b) = true := by
  rw [upI_succ, upI_succ]; exact adjV_half _ _ h

end FarInt

open FarInt

theorem adjV_toI (u v : List Nat) : adjV (toI u) (toI v) = true ↔ Far.adj u v := by
  induction u generalizing v with
  | nil => cases v <;> simp [adjV, toI, Far.adj]
  | cons x xs ih =>
    cases v with
    | nil => simp [adjV, toI, Far.adj]
    | cons y ys =>
      simp only [toI, List.map_cons, adjV, Bool.and_eq_true, Far.adj, adj1, Far.adj1, decide_eq_true_eq, Int.ofNat_eq_natCast] at ih ⊢
      exact and_congr (by omega) (ih ys)

theorem FarInt.upI_toI (k : Nat) (v : List Nat) : upI k (toI v) = toI (Far.up k v) := by
  simp [upI, toI, Far.up, Int.natCast_ediv]

theorem FarInt.upI_decode (D L a j : Nat) (hj : j ≤ L) : upI j (toI (decode D L a)) = toI (decode D (L-j) (a / 2^(D*j))) := by
  rw [upI_toI, Far.up, decode_up D L a j hj]

theorem toI_decode_half (D b i : Nat) : (toI (decode D (b+1) i)).map (· / 2) = toI (decode D b (i / 2^D)) := by
  simpa [upI] using upI_decode D (b+1) i 1 (by omega)

theorem FarInt.upI_vadd_shift (L : Nat) (v K : List Int) (j : Nat) (hj : j ≤ L) :
    upI j (vadd v (K.map (· * (2:Int)^L))) = vadd (upI j v) (K.map (· * (2:Int)^(L-j))) := by
  simp only [upI, vadd, List.map_zipWith, List.zipWith_map_left, List.zipWith_map_right]
  congr 1
  funext x kk
  have e : (2:Int)^L = 2^(L-j) * 2^j := by rw [← Int.pow_add, Nat.sub_add_cancel hj]
  rw [e, ← Int.mul_assoc, Int.add_mul_ediv_right _ _ (Int.ne_of_gt (Int.pow_pos (by omega)))]

def virt (D l s : Nat) (m : List Int) : List Int := vadd (toI (decode D l s)) (m.map (· * (2:Int)^l))

theorem virt_def (D l s : Nat) (m : List Int) : virt D l s m = vadd (toI (decode D l s)) (m.map (· * (2:Int)^l)) := rfl

@[simp] theorem virt_length (D l s : Nat) (m : List Int) : (virt D l s m).length = min D m.length := by simp [virt]

theorem virt_zero (D l s : Nat) : virt D l s (List.replicate D 0) = toI (decode D l s) := by
  rw [virt, List.map_replicate, Int.zero_mul, vadd_decode_zero]

theorem FarInt.upI_virt (D l s : Nat) (m : List Int) (j : Nat) (hj : j ≤ l) :
    upI j (virt D l s m) = virt D (l-j) (s / 2^(D*j)) m := by
  rw [virt, upI_vadd_shift l _ _ j hj, upI_decode D l s j hj, virt]

theorem virt_half (D b s : Nat) (m : List Int) : (virt D (b+1) s m).map (· / 2) = virt D b (parent D s) m := by
  simpa [upI, parent] using upI_virt D (b+1) s m 1 (by omega)

def cellOf (D l : Nat) (q : List Int) : Nat := encode D l (q.map fun x => (x % (2:Int)^l).toNat)

theorem virt_cellOf (D l : Nat) (q : List Int) (hq : q.length = D) : virt D l (cellOf D l q) (upI l q) = q := by
  have hL := one_le_two_pow l
  have hr := fun x : Int => And.intro (Int.emod_nonneg x (show (2:Int)^l ≠ 0 by omega)) (Int.emod_lt_of_pos x (show (0:Int) < 2^l by omega))
  unfold virt cellOf upI
  rw [decode_encode D l _ (by simpa using hq)]
  · refine List.ext_getElem (by simp) fun i _ _ => ?_
    simp only [vadd_get, toI_get, List.getElem_map, Int.ofNat_eq_natCast, Int.toNat_of_nonneg (hr _).1]
    exact Int.emod_add_ediv_mul _ _
  · intro c hc
    obtain ⟨x, _, rfl⟩ := List.mem_map.1 hc
    have := hr x
    have := cast_two_pow l
    omega

theorem FarInt.upI_virt_top (D l s : Nat) (m : List Int) (hm : m.length = D) : upI l (virt D l s m) = m := by
  rw [upI_virt D l s m l (Nat.le_refl l), Nat.sub_self, virt, decode]
  exact List.ext_getElem (by simp [hm]) fun i _ _ => by simp

theorem cellOf_virt (D l s : Nat) (hs : s < 2^(D*l)) (m : List Int) (hm : m.length = D) : cellOf D l (virt D l s m) = s := by
  have e : ((virt D l s m).map fun x => (x % (2:Int)^l).toNat) = decode D l s := by
    refine List.ext_getElem (by simp [hm]) fun i _ h2 => ?_
    simp only [virt, vadd_get, List.getElem_map]
    have hb := toI_decode_bounds D l s i (by simpa using h2)
    rw [Int.add_mul_emod_self_right, Int.emod_eq_of_lt hb.1 hb.2]
    simp
  rw [cellOf, e, encode_decode D l s hs]

theorem virt_inj (D l s s' : Nat) (hs : s < 2^(D*l)) (hs' : s' < 2^(D*l)) (m m' : List Int) (hm : m.length = D)
    (hm' : m'.length = D) (h : virt D l s m = virt D l s' m') : s = s' ∧ m = m' := by
  have h1 := congrArg (cellOf D l) h
  have h2 := congrArg (upI l) h
  rw [cellOf_virt D l s hs m hm, cellOf_virt D l s' hs' m' hm'] at h1
  rw [upI_virt_top D l s m hm, upI_virt_top D l s' m' hm'] at h2
  exact ⟨h1, h2⟩

theorem cellOf_toI_decode (D l t : Nat) (ht : t < 2^(D*l)) : cellOf D l (toI (decode D l t)) = t := by
  rw [← virt_zero, cellOf_virt D l t ht _ List.length_replicate]

theorem toI_decode_inj (D l : Nat) {s t : Nat} (hs : s < 2^(D*l)) (ht : t < 2^(D*l)) :
    toI (decode D l s) = toI (decode D l t) ↔ s = t :=
  ⟨fun e => by rw [← cellOf_toI_decode D l s hs, e, cellOf_toI_decode D l t ht], fun e => by rw [e]⟩

/-- the builders wrap a coordinate into the box each in its own way `w`; any `w` that agrees with the remainder gives `cellOf` -/
theorem cellOf_of_wrap (D l : Nat) (w : Int → Int) (q : List Int) (h : ∀ x ∈ q, w x = x % (2:Int)^l) :
    encode D l ((q.map w).map Int.toNat) = cellOf D l q := by
  rw [cellOf, List.map_map]
  congr 1
  exact List.map_congr_left fun x hx => by simp [h x hx]

end Tbfmm
