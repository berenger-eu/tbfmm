import Tbfmm.Spec.Fmm
import Tbfmm.Proofs.ListLemmas
/-! Index-wise forms of the list builders' vector helpers: every vector statement reduces to a scalar one per dimension. -/
namespace Tbfmm

theorem mem_odometer {rs : List (Int × Int)} {v : List Int} :
    v ∈ odometer rs ↔ v.length = rs.length ∧ ∀ i (h1 : i < rs.length) (h2 : i < v.length), rs[i].1 ≤ v[i] ∧ v[i] ≤ rs[i].2 := by
  induction rs generalizing v with
  | nil => simp [odometer]
  | cons r rs ih =>
    obtain ⟨lo, hi⟩ := r
    cases v with
    | nil => simp [odometer]
    | cons x t =>
      rw [forall_getElem_cons_cons (fun (r : Int × Int) x => r.1 ≤ x ∧ x ≤ r.2)]
      simp only [odometer, List.mem_flatMap, List.mem_range, List.mem_map, List.cons.injEq, List.length_cons,
        Nat.add_right_cancel_iff, Int.ofNat_eq_natCast]
      constructor
      · rintro ⟨k, hk, t', ht, rfl, rfl⟩
        exact ⟨(ih.1 ht).1, ⟨by omega, by omega⟩, (ih.1 ht).2⟩
      · rintro ⟨hl, ⟨a, b⟩, h⟩
        exact ⟨(x - lo).toNat, by omega, t, ih.2 ⟨hl, h⟩, by omega, rfl⟩

theorem nodup_odometer (rs : List (Int × Int)) : (odometer rs).Nodup := by
  induction rs with
  | nil => simp [odometer]
  | cons r rs ih =>
    obtain ⟨lo, hi⟩ := r
    refine nodup_flatMap_of_key (fun v => (v.headD 0 - lo).toNat) List.nodup_range
      (fun k _ => nodup_map_of_leftInverse List.tail ih fun _ _ => rfl) ?_
    intro k _ v hv
    obtain ⟨t, _, rfl⟩ := List.mem_map.1 hv
    simp only [List.headD_cons, Int.ofNat_eq_natCast]
    omega

theorem mem_odometer_replicate (D : Nat) (lo hi : Int) (K : List Int) :
    K ∈ odometer (List.replicate D (lo, hi)) ↔ K.length = D ∧ ∀ x ∈ K, lo ≤ x ∧ x ≤ hi := by
  rw [mem_odometer, List.forall_mem_iff_forall_getElem]
  simp only [List.length_replicate, List.getElem_replicate]
  exact and_congr_right fun hl => ⟨fun h i hi => h i (by omega) hi, fun h i _ hi => h i hi⟩

theorem odometer_replicate_length (D : Nat) (lo hi : Int) :
    (odometer (List.replicate D (lo, hi))).length = (hi - lo + 1).toNat ^ D := by
  induction D with
  | zero => rfl
  | succ D ih =>
    simp only [List.replicate_succ, odometer, List.length_flatMap, List.length_map, ih, List.map_const',
      List.sum_replicate_nat, List.length_range, Nat.pow_succ, Nat.mul_comm]

theorem adjV_iff (a b : List Int) : adjV a b = true ↔ a.length = b.length ∧ ∀ i (h1 : i < a.length) (h2 : i < b.length), a[i] ≤ b[i] + 1 ∧ b[i] ≤ a[i] + 1 := by
  induction a generalizing b with
  | nil => cases b <;> simp [adjV]
  | cons x xs ih =>
    cases b with
    | nil => simp [adjV]
    | cons y ys =>
      rw [forall_getElem_cons_cons (fun x y : Int => x ≤ y + 1 ∧ y ≤ x + 1)]
      simp only [adjV, Bool.and_eq_true, ih, adj1, decide_eq_true_eq, List.length_cons, Nat.add_right_cancel_iff]
      exact and_left_comm

theorem adjV_half (a b : List Int) (h : adjV a b = true) : adjV (a.map (· / 2)) (b.map (· / 2)) = true := by
  rw [adjV_iff] at h ⊢
  refine ⟨by simpa using h.1, ?_⟩
  intro i h1 h2
  have := h.2 i (by simpa using h1) (by simpa using h2)
  simp only [List.getElem_map]
  omega

theorem adjV_refl : ∀ v : List Int, adjV v v = true
  | [] => rfl
  | x :: v => by
    have : adj1 x x = true := by simp only [adj1, Bool.and_self, decide_eq_true_eq]; omega
    rw [adjV, this, adjV_refl v]; rfl

theorem toI_length (v : List Nat) : (toI v).length = v.length := by simp [toI]
theorem vadd_length (a b : List Int) : (vadd a b).length = min a.length b.length := by simp [vadd]
theorem vsub_length (a b : List Int) : (vsub a b).length = min a.length b.length := by simp [vsub]

theorem toI_get (v : List Nat) (i : Nat) (h : i < (toI v).length) : (toI v)[i] = Int.ofNat (v[i]'(by simpa [toI] using h)) := by
  simp [toI]
theorem vadd_get (a b : List Int) (i : Nat) (h : i < (vadd a b).length) :
    (vadd a b)[i] = a[i]'(by simp [vadd] at h; omega) + b[i]'(by simp [vadd] at h; omega) := by
  simp [vadd]
theorem vsub_get (a b : List Int) (i : Nat) (h : i < (vsub a b).length) :
    (vsub a b)[i] = a[i]'(by simp [vsub] at h; omega) - b[i]'(by simp [vsub] at h; omega) := by
  simp [vsub]

attribute [simp] toI_length vadd_length vsub_length toI_get vadd_get vsub_get

theorem toI_map_toNat (v : List Nat) : (toI v).map Int.toNat = v := by
  simp [toI, List.map_map, Function.comp_def]

theorem vadd_zero (v : List Int) : vadd v (List.replicate v.length 0) = v :=
  List.ext_getElem (by simp) fun i _ _ => by simp

theorem vsub_vadd_cancel (a c : List Int) (h : a.length = c.length) : vsub (vadd a c) a = c :=
  List.ext_getElem (by simp [h]) fun i _ _ => by simp; omega

theorem vadd_vsub_cancel (a c : List Int) (h : a.length = c.length) : vadd a (vsub c a) = c :=
  List.ext_getElem (by simp [h]) fun i _ _ => by simp; omega

theorem vsub_self (a : List Int) : vsub a a = List.replicate a.length 0 :=
  List.ext_getElem (by simp) fun i _ _ => by simp

theorem vsub_all_zero (x y : List Int) (hl : x.length = y.length) : (vsub x y).all (· == 0) = true ↔ x = y := by
  rw [List.all_eq_true, List.forall_mem_iff_forall_getElem]
  constructor
  · intro h
    refine List.ext_getElem hl fun i h1 h2 => ?_
    have := h i (by simp; omega)
    simp only [vsub_get, beq_iff_eq] at this
    omega
  · rintro rfl i hi
    simp

theorem adjV_eq_all : ∀ {a b : List Int}, a.length = b.length → adjV a b = (vsub b a).all (fun r => decide (r.natAbs ≤ 1))
  | [], [], _ => rfl
  | x :: a, y :: b, hl => by
    have h1 : adj1 x y = decide ((y - x).natAbs ≤ 1) := by
      rw [Bool.eq_iff_iff]; simp only [adj1, Bool.and_eq_true, decide_eq_true_eq]; omega
    rw [adjV, adjV_eq_all (by simpa using hl), h1]; rfl
  | [], _ :: _, hl | _ :: _, [], hl => by simp at hl

/-- seen from the source, the offset is the opposite one -/
theorem vsub_vadd_neg (x y k : List Int) : vsub (vadd x (k.map (- ·))) y = (vsub (vadd y k) x).map (- ·) := by
  induction x generalizing y k with
  | nil => simp [vadd, vsub]
  | cons a x ih =>
    cases y with
    | nil => simp [vadd, vsub]
    | cons b y =>
      cases k with
      | nil => simp [vadd, vsub]
      | cons c k =>
        simp only [vadd, vsub, List.map_cons, List.zipWith_cons_cons, List.cons.injEq] at ih ⊢
        exact ⟨by omega, ih y k⟩

theorem all_natAbs_neg (v : List Int) : (v.map (- ·)).all (fun o => decide (o.natAbs ≤ 1)) = v.all (fun o => decide (o.natAbs ≤ 1)) := by
  simp [List.all_map, Function.comp_def]

theorem all_zero_neg (v : List Int) : (v.map (- ·)).all (· == 0) = v.all (· == 0) := by
  rw [Bool.eq_iff_iff]
  simp [List.all_map]

end Tbfmm
