import Tbfmm.Proofs.SpecPairs
import Tbfmm.Proofs.InterElem
/-! The builder walks the neighbour positions `qp` of the target's parent and, for each, the child codes `ch`: the visit `(qp, ch)`
stands for the child `ch` of the cell of `qp`, in the image of `qp`. -/
namespace Tbfmm

open FarInt

/-- `ilistCell`'s wrapped coordinate is the remainder, its shift the quotient in boxes (`L` cells per box at the parent's
    level, `M` at the cell's own) -/
theorem ilist_wrap_shift_eq (periodic : Bool) (L M x : Int) (hL : 1 ≤ L)
    (hx : (-1 ≤ x ∧ x ≤ L) ∧ (periodic = false → 0 ≤ x ∧ x < L)) :
    (if periodic then (if x < 0 then x + L else if L ≤ x then x - L else x) else x) = x % L ∧
    (if periodic then (if x < 0 then -M else if L ≤ x then M else 0) else 0) = x / L * M := by
  obtain ⟨e1, e2⟩ := divmod_near L x hx.1 hL
  rw [e1, e2]
  cases periodic
  · have := hx.2 rfl
    simp only [Bool.false_eq_true, if_false, if_neg (Int.not_lt.2 this.1), if_neg (Int.not_le.2 this.2), Int.zero_mul,
      and_self]
  · simp only [if_true, true_and, apply_ite (· * M), Int.neg_one_mul, Int.one_mul, Int.zero_mul]

theorem ilistCell_eq (D : Nat) (periodic : Bool) (b t : Nat) (hlev : ¬ ((!periodic && decide (b+1 < 2)) || (periodic && decide (b+1 < 1))) = true) :
    ilistCell D periodic (b+1) t 0 =
      (nbrs periodic (2^b) (toI (decode D b (parent D t)))).flatMap fun qp => (List.range (2^D)).filterMap fun ch =>
        if (vsub (virt D (b+1) (child D (cellOf D b qp) ch) (upI b qp)) (toI (decode D (b+1) t))).all (fun r => r.natAbs ≤ 1) then none
        else some { tgt := t, src := child D (cellOf D b qp) ch, tpos := 0,
                    code := code7 (vsub (virt D (b+1) (child D (cellOf D b qp) ch) (upI b qp)) (toI (decode D (b+1) t))) } := by
  unfold ilistCell nbrs
  rw [if_neg hlev, List.flatMap_map]
  apply flatMap_congr_left
  intro off ho
  obtain ⟨_, hq⟩ := nbrs_bounds (toI_decode_bounds D b (parent D t)) _ (List.mem_map_of_mem ho)
  -- per coordinate: the wrapped coordinate is the remainder, the shift the quotient (in cells of level `b+1`)
  have hw := fun x hx => ilist_wrap_shift_eq periodic ((2:Int)^b) ((2:Int)^(b+1)) x (one_le_two_pow b) (hq x hx)
  simp only [Nat.add_sub_cancel]
  rw [cellOf_of_wrap D b _ _ fun x hx => (hw x hx).1,   -- `pidx` is the cell of `other`
    List.map_congr_left fun x hx => (hw x hx).2]         -- `shift` is its image number times `2^(b+1)`
  simp only [virt_def, upI, List.map_map, Function.comp_def]

/-- the specification's inner body.  `tp` is always `toI (decode D (b+1) t)`, an argument so that the term is letter for
    letter what `specM2LLevel` has under its `let tp`; the level is `b+1` because `ilistCell` also works at the parent's, `b`. -/
def specInner (D b : Nat) (t : Nat) (tp : List Int) (s : Nat) (k : List Int) : Option Elem :=
  let sp' := vadd (toI (decode D (b+1) s)) k
  if adjV (tp.map (· / 2)) (sp'.map (· / 2)) && !adjV tp sp' then some (Elem.m2l (b+1) t s (code7 (vsub sp' tp))) else none

theorem specInner_eq (D b t s : Nat) (k : List Int) :
    specInner D b t (toI (decode D (b+1) t)) s k = if perTest D (b+1) t s k then
      some (Elem.m2l (b+1) t s (code7 (vsub (vadd (toI (decode D (b+1) s)) k) (toI (decode D (b+1) t))))) else none := rfl

section
variable {D b t s : Nat} {tp m : List Int}

theorem specInner_parents_adj (h : (specInner D b t tp s (m.map (· * (2:Int)^(b+1)))).isSome) :
    adjV (tp.map (· / 2)) ((virt D (b+1) s m).map (· / 2)) = true := by
  rw [specInner] at h
  split at h
  · next hacc => exact (Bool.and_eq_true_iff.1 hacc).1
  · exact nomatch h

theorem specInner_of_parents_adj (h : adjV (tp.map (· / 2)) ((virt D (b+1) s m).map (· / 2)) = true) :
    specInner D b t tp s (m.map (· * (2:Int)^(b+1))) =
      if adjV tp (virt D (b+1) s m) then none else some (Elem.m2l (b+1) t s (code7 (vsub (virt D (b+1) s m) tp))) := by
  rw [specInner, ← virt_def, h, Bool.true_and]
  cases adjV tp (virt D (b+1) s m) <;> rfl

end

/-- at a visit `(qp, ch)` of the builder — `qp` a neighbour position of the target's parent — the parents are adjacent by
    construction, so of the specification's test only "not adjacent", the builder's own test, is left -/
theorem specInner_visit {D b t : Nat} {periodic : Bool} {qp : List Int}
    (hq : qp ∈ nbrs periodic (2^b) (toI (decode D b (parent D t)))) {ch : Nat} (hch : ch < 2^D) :
    specInner D b t (toI (decode D (b+1) t)) (child D (cellOf D b qp) ch) ((upI b qp).map (· * (2:Int)^(b+1))) =
      if adjV (toI (decode D (b+1) t)) (virt D (b+1) (child D (cellOf D b qp) ch) (upI b qp)) then none
      else some (Elem.m2l (b+1) t (child D (cellOf D b qp) ch)
        (code7 (vsub (virt D (b+1) (child D (cellOf D b qp) ch) (upI b qp)) (toI (decode D (b+1) t))))) := by
  have hpp := toI_decode_bounds D b (parent D t)
  have hql : qp.length = D := (nbrs_bounds hpp qp hq).1.trans (by simp)
  refine specInner_of_parents_adj ?_
  -- the parent position of the visited position is `qp`
  rw [toI_decode_half, virt_half, parent_child D _ ch hch, virt_cellOf D b qp hql]
  exact ((mem_nbrs periodic hpp qp).1 hq).1

/-- **characterisation of `getInteractionListForIndex`** (one target cell): the present entries of the
    interaction list of `t` are, as a multiset, the specification's transfer pairs of `t` -/
theorem ilist_target_perm (D : Nat) (periodic : Bool) (b : Nat) (t : Nat) (srcs : List Nat)
    (hlev : ¬ ((!periodic && decide (b+1 < 2)) || (periodic && decide (b+1 < 1))) = true)
    (hs : ∀ s ∈ srcs, s < 2^(D*(b+1))) (hnd : srcs.Nodup) :
    (((ilistCell D periodic (b+1) t 0).filter fun x => srcs.contains x.src).map (elemM2L (b+1))).Perm
      (srcs.flatMap fun s => ((imageShifts D periodic).map fun k => k.map (· * (2:Int)^(b+1))).filterMap fun k =>
        specInner D b t (toI (decode D (b+1) t)) s k) := by
  have hpp := toI_decode_bounds D b (parent D t)
  have hpl : (toI (decode D b (parent D t))).length = D := by simp
  -- both sides as one `filterMap`: over the visits `(qp, ch)`, over the (source, image number) pairs
  rw [ilistCell_eq D periodic b t hlev, flatMap_filterMap_prod, List.filter_filterMap, List.map_filterMap]
  simp only [List.filterMap_map, Function.comp_def]
  -- a visit `(qp, ch)` is read as (child `ch` of the cell of `qp`, image number of `qp`); a pair `(s, m)` is visited at
  -- (image `m` of the parent of `s`, child code of `s`)
  refine (List.Perm.of_eq (filterMap_congr_left ?_)).trans (filterMap_perm_pairs _ srcs (imageShifts D periodic)
    (fun s m => specInner D b t (toI (decode D (b+1) t)) s (m.map (· * (2:Int)^(b+1))))
    (fun x => (child D (cellOf D b x.1) x.2, upI b x.1)) (fun y => (virt D b (parent D y.1) y.2, childCode D y.1))
    (nodup_prodList (nodup_nbrs periodic _ _) List.nodup_range) hnd (nodup_imageShifts D periodic) ?_ ?_)
  · -- at a visit, the builder's entry kept when present = what the specification yields for the visit's pair when present
    rintro ⟨qp, ch⟩ hx
    obtain ⟨hq, hch⟩ := mem_prodList.1 hx
    have hlen : (virt D (b+1) (child D (cellOf D b qp) ch) (upI b qp)).length = D := by
      simp [(nbrs_bounds hpp qp hq).1.trans hpl]
    simp only [specInner_visit hq (List.mem_range.1 hch)]
    generalize virt D (b+1) (child D (cellOf D b qp) ch) (upI b qp) = q at hlen ⊢
    rw [adjV_eq_all (a := toI (decode D (b+1) t)) (b := q) (by simp [hlen])]
    cases (vsub q (toI (decode D (b+1) t))).all fun r => decide (r.natAbs ≤ 1) <;>
      simp [elemM2L, Option.filter_some, apply_ite (Option.map _)]
  · -- the parent position and the child code give the visit back
    rintro ⟨qp, ch⟩ hx
    obtain ⟨hq, hch⟩ := mem_prodList.1 hx
    have hch := List.mem_range.1 hch
    exact ⟨nbrs_image hpl hpp qp hq, by
      simp only [parent_child D _ ch hch, childCode_child D _ ch hch, virt_cellOf D b qp ((nbrs_bounds hpp qp hq).1.trans hpl)]⟩
  · -- an accepted pair `(s, m)` is visited: at the image `m` of the parent of `s`, with the child code of `s`
    intro s hs' m hm hsome
    have hml := ((mem_imageShifts D periodic m).1 hm).1
    -- the parent position of an accepted image is the same image of the parent cell, and a neighbour
    have hpar := specInner_parents_adj hsome
    rw [toI_decode_half, virt_half, adjV_eq_all (by simp [hml])] at hpar
    have hp : parent D s < 2^(D*b) := by
      rw [parent, Nat.div_lt_iff_lt_mul (Nat.two_pow_pos D), ← Nat.pow_add]
      exact hs s hs'
    refine ⟨mem_prodList.2 ⟨virt_mem_nbrs hpl hpp (parent D s) m hm hpar, List.mem_range.2 (Nat.mod_lt _ (Nat.two_pow_pos D))⟩, ?_⟩
    simp only [cellOf_virt D b _ hp m hml, upI_virt_top D b _ m hml, child_parent]

theorem ilist_target_refines (D : Nat) (periodic : Bool) (l : Nat) (t : Nat) (srcs : List Nat)
    (hs : ∀ s ∈ srcs, s < 2^(D*l)) (hnd : srcs.Nodup) :
    (((ilistCell D periodic l t 0).filter fun x => srcs.contains x.src).map (elemM2L l)).Perm
      (specM2LLevel D periodic l [t] srcs) := by
  by_cases hg : ((!periodic && decide (l < 2)) || (periodic && decide (l < 1))) = true
  · rw [ilistCell, if_pos hg, specM2LLevel, if_pos hg]
    exact .nil
  · cases l with
    | zero => cases periodic <;> simp at hg
    | succ b =>
      refine (ilist_target_perm D periodic b t srcs hg hs hnd).trans (.of_eq ?_)
      rw [specM2LLevel_eq, if_neg (mt (noM2L_iff periodic _).2 hg)]
      simp only [triples, List.flatMap_singleton, levelShifts, specInner_eq]

theorem m2l_level_char (D : Nat) (periodic : Bool) (l : Nat) (tgts srcs : List Nat)
    (hs : ∀ s ∈ srcs, s < 2^(D*l)) (hnd : srcs.Nodup) :
    ((tgts.flatMap fun c => (ilistCell D periodic l c 0).filter fun x => srcs.contains x.src).map (elemM2L l)).Perm
      (specM2LLevel D periodic l tgts srcs) := by
  rw [specM2LLevel_by_target, List.map_flatMap]
  exact flatMap_perm_of_forall fun t _ => ilist_target_refines D periodic l t srcs hs hnd

end Tbfmm
