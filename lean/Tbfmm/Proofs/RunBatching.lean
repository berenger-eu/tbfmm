import Tbfmm.Spec.Fmm
import Tbfmm.Proofs.ListLemmas
/-! Same-target run batching: nothing lost, nothing duplicated, no empty batch. -/
namespace Tbfmm

theorem batchRunsF_spec (fuel : Nat) (xs : List Inter) (hf : xs.length ≤ fuel) :
    (batchRunsF fuel xs).flatten = xs ∧ (∀ r ∈ batchRunsF fuel xs, r ≠ []) ∧
    (∀ r ∈ batchRunsF fuel xs, ∀ y ∈ r, y.tgt = (r.headD default).tgt) := by
  fun_induction batchRunsF fuel xs with
  | case1 xs => exact ⟨(List.eq_nil_of_length_eq_zero (Nat.le_zero.mp hf)).symm, List.forall_mem_nil _, List.forall_mem_nil _⟩
  | case2 f h => exact ⟨rfl, List.forall_mem_nil _, List.forall_mem_nil _⟩
  | case3 f x xs run ih =>
    obtain ⟨h1, h2, h3⟩ := ih (Nat.le_trans (List.dropWhile_sublist _).length_le (Nat.le_of_succ_le_succ hf))
    refine ⟨?_, List.forall_mem_cons.mpr ⟨List.cons_ne_nil _ _, h2⟩, List.forall_mem_cons.mpr ⟨fun y hy => ?_, h3⟩⟩
    · rw [List.flatten_cons, h1, List.cons_append, List.takeWhile_append_dropWhile]
    · rcases List.mem_cons.mp hy with rfl | hy
      · rfl
      · exact beq_iff_eq.mp (List.all_eq_true.mp List.all_takeWhile y hy)

theorem batchRuns_spec (xs : List Inter) :
    (batchRuns xs).flatten = xs ∧ (∀ r ∈ batchRuns xs, r ≠ []) ∧ ∀ r ∈ batchRuns xs, ∀ y ∈ r, y.tgt = (r.headD default).tgt :=
  batchRunsF_spec xs.length xs (Nat.le_refl _)

theorem batchRuns_flatten (xs : List Inter) : (batchRuns xs).flatten = xs := (batchRuns_spec xs).1

theorem m2lCall_elems (level t : Nat) (P : List Inter) (hP : ∀ y ∈ P, y.tgt = t) :
    elemsOfCall (Call.m2l level t (P.map fun x => (x.src, x.code))) = P.map fun x => Elem.m2l level x.tgt x.src x.code := by
  rw [elemsOfCall, List.map_map]
  exact List.map_congr_left fun y hy => by rw [Function.comp, hP y hy]

/-- `M2LInGroup` performs exactly the internal list, in order -/
theorem m2lInGroup_elems (level : Nat) (inn : List Inter) :
    (m2lInGroup level inn).flatMap elemsOfCall = inn.map fun x => Elem.m2l level x.tgt x.src x.code := by
  obtain ⟨h1, -, h3⟩ := batchRuns_spec inn
  rw [m2lInGroup, List.flatMap_map]
  conv => rhs; rw [← h1, List.map_flatten, ← List.flatMap_def]
  exact flatMap_congr_left fun r hr => m2lCall_elems level _ r (h3 r hr)

/-- `M2LBetweenGroups` performs the slice entries whose source exists in the source group, in order -/
theorem m2lBetween_elems (level : Nat) (src : Group) (slice : List Inter) :
    (m2lBetween level src slice).flatMap elemsOfCall =
      (slice.filter fun x => src.contains x.src).map fun x => Elem.m2l level x.tgt x.src x.code := by
  obtain ⟨h1, -, h3⟩ := batchRuns_spec slice
  unfold m2lBetween
  generalize batchRuns slice = runs at *
  subst h1
  induction runs with
  | nil => rfl
  | cons r rs ih =>
    rw [List.filterMap_cons, List.flatten_cons, List.filter_append, List.map_append, ← ih fun r' hr' => h3 r' (List.mem_cons_of_mem _ hr')]
    have hr := m2lCall_elems level (r.headD default).tgt (r.filter fun x => src.contains x.src)
      fun y hy => h3 r List.mem_cons_self y (List.mem_filter.mp hy).1
    by_cases he : (r.filter fun x => src.contains x.src).isEmpty = true
    · simp only [he, if_true]
      rw [List.isEmpty_iff.mp he]; rfl
    · simp only [he, Bool.false_eq_true, if_false]
      rw [List.flatMap_cons, hr]

theorem m2lBetween_nonempty (level : Nat) (src : Group) (slice : List Inter) :
    ∀ c ∈ m2lBetween level src slice, ∃ t ss, c = Call.m2l level t ss ∧ ss ≠ [] := by
  intro c hc
  obtain ⟨run, -, hrun⟩ := List.mem_filterMap.mp hc
  dsimp only at hrun
  split at hrun
  · exact nomatch hrun
  · next hne => exact ⟨_, _, (Option.some.inj hrun).symm, fun h => hne (by rw [List.map_eq_nil_iff.mp h]; rfl)⟩

theorem m2lInGroup_nonempty (level : Nat) (inn : List Inter) :
    ∀ c ∈ m2lInGroup level inn, ∃ t ss, c = Call.m2l level t ss ∧ ss ≠ [] := by
  intro c hc
  obtain ⟨run, hr, rfl⟩ := List.mem_map.mp hc
  exact ⟨_, _, rfl, fun h => (batchRuns_spec inn).2.1 run hr (List.map_eq_nil_iff.mp h)⟩

end Tbfmm
