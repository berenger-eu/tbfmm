import Tbfmm.Proofs.Phases
import Tbfmm.Proofs.SpecCells
/-!
The two passes for one source particle `q` (weight `wq q`: a value counts how many times `q`'s contribution sits in it).
Neither pass reads a weight: that `b` is the leaf of `q` enters with P2M only.
-/
namespace Tbfmm

section
variable (w : Nat → Nat) (L : Nat) (po po' : Nat → List Nat) {D : Nat} {cells : List Nat} (hnd : cells.Nodup)
include hnd

theorem m2m_level_step {x : Nat} (hx : x ∈ cells) (ℓ : Nat) (cs : List Call) (hform : ∀ c ∈ cs, ∃ p ch, c = .m2m ℓ p ch)
    (helems : cs.flatMap elemsOfCall = cells.map fun c => Elem.m2m ℓ (parent D c) c (childCode D c))
    (s : State) (hs1 : ∀ i, s.m (ℓ+1) i = if i = x then 1 else 0) (hs0 : ∀ i, s.m ℓ i = 0) :
    (∀ i, (applyCalls w L po po' s cs).m ℓ i = if i = parent D x then 1 else 0) ∧
    (∀ lv i, lv ≠ ℓ → (applyCalls w L po po' s cs).m lv i = s.m lv i) ∧
    (∀ lv i, (applyCalls w L po po' s cs).l lv i = s.l lv i) ∧ (∀ p, (applyCalls w L po po' s cs).r p = s.r p) := by
  obtain ⟨h1, h2, h3⟩ := phase_m2m w L po po' ℓ cs hform s
  refine ⟨?_, ?_, h2, h3⟩
  · intro i
    -- of the cells of level `ℓ+1` only `x` holds anything; it hands it to its parent
    rw [h1, helems, sumOver_map, hs0, Nat.zero_add, sumOver_single hnd x, if_pos hx]
    · show (if (ℓ, parent D x) = (ℓ, i) then s.m (ℓ+1) x else 0) = _
      rw [hs1, if_pos rfl]
      by_cases h : i = parent D x
      · rw [if_pos h, if_pos (by rw [h])]
      · rw [if_neg h, if_neg (by intro e; injection e with _ e2; exact h e2.symm)]
    · intro c _ hne
      show (if (ℓ, parent D c) = (ℓ, i) then s.m (ℓ+1) c else 0) = 0
      rw [hs1, if_neg hne, ite_self]
  · intro lv i hne
    rw [h1, helems, sumOver_map, sumOver_zero, Nat.add_zero]
    intro c _
    show (if (ℓ, parent D c) = (lv, i) then s.m (ℓ+1) c else 0) = 0
    exact if_neg (by intro e; injection e with e1 _; exact hne e1.symm)

theorem l2l_level_step (ℓ : Nat) (cs : List Call) (hform : ∀ c ∈ cs, ∃ p ch, c = .l2l ℓ p ch)
    (helems : cs.flatMap elemsOfCall = cells.map fun c => Elem.l2l ℓ (parent D c) c (childCode D c)) (s : State) :
    (∀ i, (applyCalls w L po po' s cs).l (ℓ+1) i = s.l (ℓ+1) i + if i ∈ cells then s.l ℓ (parent D i) else 0) ∧
    (∀ lv i, lv ≠ ℓ + 1 → (applyCalls w L po po' s cs).l lv i = s.l lv i) ∧
    (∀ lv i, (applyCalls w L po po' s cs).m lv i = s.m lv i) ∧ (∀ p, (applyCalls w L po po' s cs).r p = s.r p) := by
  obtain ⟨h1, h2, h3⟩ := phase_l2l w L po po' ℓ cs hform s
  refine ⟨?_, ?_, h2, h3⟩
  · intro i
    rw [h1, helems, sumOver_map, sumOver_single hnd i]
    · show _ + (if i ∈ cells then (if (ℓ + 1, i) = (ℓ + 1, i) then s.l ℓ (parent D i) else 0) else 0) = _
      rw [if_pos rfl]
    · intro c _ hne
      show (if (ℓ + 1, c) = (ℓ + 1, i) then s.l ℓ (parent D c) else 0) = 0
      exact if_neg (by intro e; injection e with _ e2; exact hne e2)
  · intro lv i hne
    rw [h1, helems, sumOver_map, sumOver_zero, Nat.add_zero]
    intro c _
    show (if (ℓ + 1, c) = (lv, i) then s.l ℓ (parent D c) else 0) = 0
    exact if_neg (by intro e; injection e with e1 _; exact hne e1.symm)

end

section
variable (q : Nat) (D L : Nat) (po po' : Nat → List Nat) (cellsAt : Nat → List Nat) (b : Nat)
  (hnd : ∀ ℓ, (cellsAt ℓ).Nodup) (hb : ∀ ℓ, ℓ ≤ L → anc D L ℓ b ∈ cellsAt ℓ)

include hnd hb

/-- upward pass: after the M2M calls of levels `u+k-1, …, u` (in that order), every level `u … L` holds the source
    particle once in the ancestor of its leaf and nowhere else -/
theorem m2m_pass (u : Nat) (css : Nat → List Call) (hform : ∀ ℓ, ∀ c ∈ css ℓ, ∃ p ch, c = .m2m ℓ p ch)
    (k : Nat) (hk : u + k ≤ L)
    (helems : ∀ ℓ, u ≤ ℓ → ℓ < u + k → (css ℓ).flatMap elemsOfCall = (cellsAt (ℓ+1)).map fun c => Elem.m2m ℓ (parent D c) c (childCode D c))
    (s : State) (hs_hi : ∀ ℓ i, u + k ≤ ℓ → ℓ ≤ L → s.m ℓ i = if i = anc D L ℓ b then 1 else 0)
    (hs_lo : ∀ ℓ i, ℓ < u + k → s.m ℓ i = 0) :
    (∀ ℓ i, u ≤ ℓ → ℓ ≤ L → (applyCalls (wq q) L po po' s ((List.range' u k).reverse.flatMap css)).m ℓ i = if i = anc D L ℓ b then 1 else 0) ∧
    (∀ ℓ i, ℓ < u → (applyCalls (wq q) L po po' s ((List.range' u k).reverse.flatMap css)).m ℓ i = 0) ∧
    (∀ lv i, (applyCalls (wq q) L po po' s ((List.range' u k).reverse.flatMap css)).l lv i = s.l lv i) ∧
    (∀ p, (applyCalls (wq q) L po po' s ((List.range' u k).reverse.flatMap css)).r p = s.r p) := by
  induction k generalizing s with
  | zero =>
    simp only [List.range'_zero, List.reverse_nil, List.flatMap_nil, applyCalls, List.foldl_nil]
    exact ⟨hs_hi, hs_lo, fun _ _ => trivial, fun _ => trivial⟩
  | succ k ih =>
    rw [List.range'_concat, List.reverse_append, List.reverse_singleton, List.singleton_append, List.flatMap_cons, applyCalls_append]
    simp only [Nat.one_mul]
    -- level `u+k` first: its cells receive from level `u+k+1`, where only the ancestor of `b` holds anything
    obtain ⟨hlevel, hother, hl, hr⟩ := m2m_level_step (wq q) L po po' (hnd (u+k+1)) (hb (u+k+1) hk) (u + k) (css (u+k)) (hform (u+k))
      (helems (u+k) (Nat.le_add_right _ _) (Nat.lt_succ_self _)) s (fun i => hs_hi (u+k+1) i (Nat.le_refl _) hk)
      (fun i => hs_lo (u+k) i (Nat.lt_succ_self _))
    rw [parent_anc D L (u+k) b hk] at hlevel
    -- the state after level `u+k` is as the statement asks it for the `k` levels that remain
    have hs_hi' : ∀ ℓ i, u + k ≤ ℓ → ℓ ≤ L →
        (applyCalls (wq q) L po po' s (css (u+k))).m ℓ i = if i = anc D L ℓ b then 1 else 0 := by
      intro ℓ i h1 h2
      by_cases e : ℓ = u + k
      · subst e; exact hlevel i
      · rw [hother ℓ i e]; exact hs_hi ℓ i (Nat.lt_of_le_of_ne h1 (Ne.symm e)) h2
    have hs_lo' : ∀ ℓ i, ℓ < u + k → (applyCalls (wq q) L po po' s (css (u+k))).m ℓ i = 0 := by
      intro ℓ i h1
      rw [hother ℓ i (Nat.ne_of_lt h1)]; exact hs_lo ℓ i (Nat.lt_succ_of_lt h1)
    obtain ⟨b1, b2, b3, b4⟩ := ih (Nat.le_of_succ_le hk) (fun ℓ h1 h2 => helems ℓ h1 (Nat.lt_succ_of_lt h2))
      (applyCalls (wq q) L po po' s (css (u+k))) hs_hi' hs_lo'
    refine ⟨b1, b2, ?_, ?_⟩
    · intro lv i; rw [b3, hl]
    · intro p; rw [b4, hr]

end

section
variable (q : Nat) (D L : Nat) (po po' : Nat → List Nat) (cellsAt : Nat → List Nat) (a : Nat)
  (hnd : ∀ ℓ, (cellsAt ℓ).Nodup) (ha : ∀ ℓ, ℓ ≤ L → anc D L ℓ a ∈ cellsAt ℓ)

/-- what the transfers put into the locals of the ancestors of `a` at levels `v+1 … v+k` -/
def sumA (A : Nat → Nat → Nat) : Nat → Nat → Nat
  | _, 0 => 0
  | v, k+1 => A (v+1) (anc D L (v+1) a) + sumA A (v+1) k

include hnd ha

/-- downward pass along the ancestors of `a`: levels `v, …, v+k-1` in that order -/
theorem l2l_pass (A : Nat → Nat → Nat) (css : Nat → List Call) (hform : ∀ ℓ, ∀ c ∈ css ℓ, ∃ p ch, c = .l2l ℓ p ch)
    (k v : Nat) (hk : v + k ≤ L)
    (helems : ∀ ℓ, v ≤ ℓ → ℓ < v + k → (css ℓ).flatMap elemsOfCall = (cellsAt (ℓ+1)).map fun c => Elem.l2l ℓ (parent D c) c (childCode D c))
    (s : State) (g : Nat) (hg : s.l v (anc D L v a) = g) (hA : ∀ ℓ i, v < ℓ → s.l ℓ i = A ℓ i) :
    (applyCalls (wq q) L po po' s ((List.range' v k).flatMap css)).l (v + k) (anc D L (v+k) a) = g + sumA D L a A v k ∧
    (∀ lv i, (applyCalls (wq q) L po po' s ((List.range' v k).flatMap css)).m lv i = s.m lv i) ∧
    (∀ p, (applyCalls (wq q) L po po' s ((List.range' v k).flatMap css)).r p = s.r p) := by
  induction k generalizing v s g with
  | zero =>
    simp only [List.range'_zero, List.flatMap_nil, applyCalls, List.foldl_nil, Nat.add_zero, sumA]
    exact ⟨hg, fun _ _ => trivial, fun _ => trivial⟩
  | succ k ih =>
    have hv : v + 1 ≤ L := by omega
    rw [List.range'_succ, List.flatMap_cons, applyCalls_append]
    obtain ⟨a1, a2, a3, a4⟩ := l2l_level_step (wq q) L po po' (hnd (v+1)) v (css v) (hform v)
      (helems v (Nat.le_refl _) (Nat.lt_add_of_pos_right (Nat.succ_pos k))) s
    have hstep : (applyCalls (wq q) L po po' s (css v)).l (v+1) (anc D L (v+1) a) = A (v+1) (anc D L (v+1) a) + g := by
      rw [a1, if_pos (ha (v+1) hv), parent_anc D L v a hv, hg, hA (v+1) _ (Nat.lt_succ_self v)]
    have e : v + (k + 1) = v + 1 + k := (Nat.succ_add_eq_add_succ v k).symm
    obtain ⟨b1, b2, b3⟩ := ih (v+1) (e ▸ hk) (fun ℓ h1 h2 => helems ℓ (Nat.le_of_succ_le h1) (e ▸ h2)) (applyCalls (wq q) L po po' s (css v))
      (A (v+1) (anc D L (v+1) a) + g) hstep
      (by intro ℓ i h; rw [a2 ℓ i (Nat.ne_of_gt h)]; exact hA ℓ i (Nat.lt_of_succ_lt h))
    refine ⟨?_, ?_, ?_⟩
    · rw [e, b1, sumA, Nat.add_comm _ g, Nat.add_assoc]
    · intro lv i; rw [b2, a3]
    · intro p; rw [b3, a4]

end

theorem sumA_eq_sumOver (D L a : Nat) (A : Nat → Nat → Nat) (v k : Nat) :
    sumA D L a A v k = sumOver (List.range' (v+1) k) (fun ℓ => A ℓ (anc D L ℓ a)) := by
  induction k generalizing v with
  | zero => rfl
  | succ k ih => rw [sumA, ih, List.range'_succ, sumOver_cons]

theorem mem_levels {u L ℓ : Nat} : ℓ ∈ List.range' u (L + 1 - u) ↔ u ≤ ℓ ∧ ℓ ≤ L := by
  rw [List.mem_range'_1]; omega

theorem sumA_levels (D L a : Nat) (A : Nat → Nat → Nat) (u : Nat) :
    (if u ≤ L then A u (anc D L u a) + sumA D L a A u (L - u) else 0) =
      sumOver (List.range' u (L + 1 - u)) (fun ℓ => A ℓ (anc D L ℓ a)) := by
  split
  next h => rw [sumA_eq_sumOver, Nat.succ_sub h, List.range'_succ, sumOver_cons]
  next h => rw [Nat.sub_eq_zero_of_le (Nat.not_le.1 h)]; rfl

/-- `f ℓ` is the indicator that level `ℓ = L - j` is at least the lowest transfer level `m` (2, periodic 1) and the
    height-`j` predicate `P j` holds; `P` holds at no height, or at exactly one: the sum over the levels is 0, or 1. -/
theorem levels_none (u m L : Nat) {f : Nat → Nat} {P : Nat → Prop} [DecidablePred P]
    (hf : ∀ ℓ j, ℓ + j = L → u ≤ ℓ → f ℓ = if m ≤ ℓ ∧ P j then 1 else 0)
    (hnone : ∀ j, j + m ≤ L → ¬ P j) :
    sumOver (List.range' u (L + 1 - u)) f = 0 := by
  refine sumOver_zero (fun ℓ hℓ => ?_)
  obtain ⟨hu, hL⟩ := mem_levels.1 hℓ
  rw [hf ℓ (L - ℓ) (Nat.add_sub_cancel' hL) hu, if_neg]
  rintro ⟨h1, h2⟩
  exact hnone (L - ℓ) (by omega) h2

/-- (`u ≤ m`: the level of `j0` is among `u … L`) -/
theorem levels_once (u m L : Nat) (hu : u ≤ m) {f : Nat → Nat} {P : Nat → Prop} [DecidablePred P]
    (hf : ∀ ℓ j, ℓ + j = L → u ≤ ℓ → f ℓ = if m ≤ ℓ ∧ P j then 1 else 0)
    (j0 : Nat) (hj0 : j0 + m ≤ L) (h0 : P j0) (huniq : ∀ j, j + m ≤ L → P j → j = j0) :
    sumOver (List.range' u (L + 1 - u)) f = 1 := by
  have hm : m ≤ L - j0 := Nat.le_sub_of_add_le' hj0
  have hu0 : u ≤ L - j0 := Nat.le_trans hu hm
  rw [sumOver_single (List.nodup_range' (step := 1)) (L - j0), if_pos (mem_levels.2 ⟨hu0, Nat.sub_le _ _⟩),
    hf (L - j0) j0 (Nat.sub_add_cancel (Nat.le_of_add_right_le hj0)) hu0, if_pos ⟨hm, h0⟩]
  intro ℓ hℓ hne
  obtain ⟨huℓ, hL⟩ := mem_levels.1 hℓ
  rw [hf ℓ (L - ℓ) (Nat.add_sub_cancel' hL) huℓ, if_neg]
  rintro ⟨h1, h2⟩
  have := huniq (L - ℓ) (by omega) h2
  exact hne (by rw [← this, Nat.sub_sub_self hL])

end Tbfmm
