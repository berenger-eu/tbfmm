import Tbfmm.Proofs.Weighted
import Tbfmm.Proofs.M2LPairs
/-!
Non-vacuity: the hypotheses of the main theorems are met by concrete, non-trivial inputs, and the
conclusions can be observed by evaluation on them.
-/
namespace Tbfmm.Examples

/-- a 2-D tree of height 3 with four particles in three leaves, block size 2, one-group-per-parent mode -/
def leafIdx : List Nat := [0, 5, 15, 5]

example : 0 < 2 ∧ leafIdx ≠ [] ∧ 1 ≤ 3 ∧ (∀ i ∈ leafIdx, i < 2^(2*(3-1))) ∧ 2 ≤ 2 ∧ 3 < leafIdx.length := by decide

/-- the instance of `exec_refines_spec` for that input -/
example := exec_refines_spec 2 3 2 true leafIdx false 63 2 (by decide) (by decide) (by decide) (by decide)

/-- the instance of `C01_values_weighted` for that input and the driver's packed weights -/
example := C01_values_weighted 2 3 2 true leafIdx 2 (by decide) (by decide) (by decide) (by decide) (by decide) weight 3 (by decide)

/-- `C09_values` for two different particle sets -/
example := C09_values 2 3 2 1 true false [0, 5, 15, 5] [3, 12] 2 (by decide) (by decide) (by decide) (by decide) (by decide)
  (by decide) (by decide) (by decide) 1 2 (by decide) (by decide)

/-- far pair: leaves 0 and 15 of a 4×4 grid are not adjacent -/
example : ¬ Far.adj (decode 2 2 0) (decode 2 2 15) := by decide
/-- near pair: leaves 0 and 3 are adjacent -/
example : Far.adj (decode 2 2 0) (decode 2 2 3) := by decide

-- evaluation of both sides of `C01_values_weighted` on the example (unit weights): every particle counts the three others
#eval (List.range leafIdx.length).map fun p =>
  ((applyCalls (fun _ => 1) 2 (Tree.build 2 3 2 true leafIdx).partsOf (Tree.build 2 3 2 true leafIdx).partsOf {}
    (executeSeq (Tree.build 2 3 2 true leafIdx) false 63 2)).r p,
   sumOver (List.range leafIdx.length) (fun q => if p = q then 0 else 1))

end Tbfmm.Examples
