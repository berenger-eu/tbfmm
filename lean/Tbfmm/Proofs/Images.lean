import Tbfmm.Proofs.Positions
import Tbfmm.Proofs.ListLemmas
/-! The specification enumerates sources × image numbers, the list builders walk positions (`nbrs`); a position is the
image `upI l q` of the cell `cellOf D l q` and of no other, so the two enumerations agree (`images_perm`, for a walk over `nbrs`
itself). -/
namespace Tbfmm

open FarInt

theorem mem_imageShifts (D : Nat) (periodic : Bool) (m : List Int) :
    m ∈ imageShifts D periodic ↔ m.length = D ∧ ∀ x ∈ m, (-1 ≤ x ∧ x ≤ 1) ∧ (periodic = false → x = 0) := by
  unfold imageShifts
  cases periodic
  · simp only [Bool.false_eq_true, if_false, List.mem_singleton, List.eq_replicate_iff, forall_const]
    exact and_congr_right fun _ => forall₂_congr fun x _ => ⟨fun h => ⟨by omega, h⟩, fun h => h.2⟩
  · simp [mem_odometer_replicate]

theorem nodup_imageShifts (D : Nat) (periodic : Bool) : (imageShifts D periodic).Nodup := by
  unfold imageShifts
  cases periodic
  · simp
  · simpa using nodup_odometer _

/-- adjacency on the right is in the form `adjV_iff` gives it for the coordinates `p` and `p + o` -/
theorem rangeOf_iff (periodic : Bool) (L p o : Int) (hp : 0 ≤ p ∧ p < L) :
    ((rangeOf periodic L p).1 ≤ o ∧ o ≤ (rangeOf periodic L p).2) ↔
      (p ≤ p + o + 1 ∧ p + o ≤ p + 1) ∧ (periodic = false → 0 ≤ p + o ∧ p + o < L) := by
  unfold rangeOf
  cases periodic
  · simp only [Bool.false_eq_true, if_false, forall_const]
    omega
  · simp only [if_true, Bool.true_eq_false, false_imp_iff, and_true]
    omega

def nbrs (periodic : Bool) (L : Int) (tp : List Int) : List (List Int) :=
  (odometer (tp.map (rangeOf periodic L))).map (vadd tp)

theorem nodup_nbrs (periodic : Bool) (L : Int) (tp : List Int) : (nbrs periodic L tp).Nodup := by
  refine nodup_map_of_leftInverse (vsub · tp) (nodup_odometer _) fun off ho => ?_
  exact vsub_vadd_cancel tp off (by simpa using (mem_odometer.1 ho).1.symm)

section
variable (periodic : Bool) {L : Int} {tp : List Int} (htp : ∀ i (h : i < tp.length), 0 ≤ tp[i] ∧ tp[i] < L)
include htp

theorem mem_nbrs (q : List Int) :
    q ∈ nbrs periodic L tp ↔ adjV tp q = true ∧ (periodic = false → ∀ i (h : i < q.length), 0 ≤ q[i] ∧ q[i] < L) := by
  simp only [nbrs, List.mem_map, mem_odometer, adjV_iff, List.length_map, List.getElem_map]
  constructor
  · rintro ⟨off, ⟨hl, h⟩, rfl⟩
    have r := fun i (h1 : i < tp.length) => (rangeOf_iff periodic L tp[i] (off[i]'(by omega)) (htp i h1)).1 (h i h1 (by omega))
    exact ⟨⟨by simp [hl], fun i h1 _ => by simpa using (r i h1).1⟩, fun hp i hi => by simpa using (r i (by simp at hi; omega)).2 hp⟩
  · rintro ⟨⟨hl, h⟩, hb⟩
    refine ⟨vsub q tp, ⟨by simp [hl], fun i h1 h2 => ?_⟩, vadd_vsub_cancel tp q hl⟩
    refine (rangeOf_iff periodic L tp[i] _ (htp i h1)).2 ?_
    have e : tp[i] + (vsub q tp)[i] = q[i]'(by omega) := by simp; omega
    rw [e]
    exact ⟨h i h1 (by omega), fun hp => hb hp i (by omega)⟩

variable {periodic}

theorem nbrs_bounds (q : List Int) (hq : q ∈ nbrs periodic L tp) :
    q.length = tp.length ∧ ∀ x ∈ q, (-1 ≤ x ∧ x ≤ L) ∧ (periodic = false → 0 ≤ x ∧ x < L) := by
  obtain ⟨ha, hb⟩ := (mem_nbrs periodic htp q).1 hq
  obtain ⟨hl, ha⟩ := (adjV_iff _ _).1 ha
  refine ⟨hl.symm, fun x hx => ?_⟩
  obtain ⟨i, hi, rfl⟩ := List.mem_iff_getElem.1 hx
  have := ha i (by omega) hi
  have := htp i (by omega)
  exact ⟨by omega, fun hp => hb hp i hi⟩

theorem nbrs_all_near (q : List Int) (hq : q ∈ nbrs periodic L tp) :
    (vsub q tp).all (fun o => decide (o.natAbs ≤ 1)) = true := by
  rw [← adjV_eq_all (nbrs_bounds htp q hq).1.symm]
  exact ((mem_nbrs periodic htp q).1 hq).1

end

theorem divmod_near (L x : Int) (hx : -1 ≤ x ∧ x ≤ L) (hL : 1 ≤ L) :
    x / L = (if x < 0 then -1 else if L ≤ x then 1 else 0) ∧
    x % L = (if x < 0 then x + L else if L ≤ x then x - L else x) := by
  refine (Int.ediv_emod_unique (by omega)).2 ?_
  split
  · omega
  · split <;> omega

section
variable {D : Nat} {periodic : Bool} {l : Nat} {tp : List Int} (hD : tp.length = D)
  (htp : ∀ i (h : i < tp.length), 0 ≤ tp[i] ∧ tp[i] < (2:Int)^l)
include hD htp

theorem nbrs_image (q : List Int) (hq : q ∈ nbrs periodic (2^l) tp) : upI l q ∈ imageShifts D periodic := by
  obtain ⟨hl, hb⟩ := nbrs_bounds htp q hq
  refine (mem_imageShifts D periodic _).2 ⟨by simp [hl, hD], fun y hy => ?_⟩
  obtain ⟨x, hx, rfl⟩ := List.mem_map.1 hy
  have hx := hb x hx
  refine ⟨?_, fun hp => Int.ediv_eq_zero_of_lt (hx.2 hp).1 (hx.2 hp).2⟩
  rw [(divmod_near _ x hx.1 (one_le_two_pow l)).1]
  omega

theorem virt_mem_nbrs (s : Nat) (m : List Int) (hm : m ∈ imageShifts D periodic)
    (hadj : (vsub (virt D l s m) tp).all (fun o => decide (o.natAbs ≤ 1)) = true) :
    virt D l s m ∈ nbrs periodic (2^l) tp := by
  obtain ⟨hml, hm⟩ := (mem_imageShifts D periodic m).1 hm
  rw [← adjV_eq_all (by simp [hml, hD])] at hadj
  refine (mem_nbrs periodic htp _).2 ⟨hadj, fun hp i hi => ?_⟩
  have hi' : i < m.length := by simpa [hml] using hi
  have e : m[i] = 0 := (hm _ (List.getElem_mem hi')).2 hp
  simp only [virt_def, vadd_get, List.getElem_map, e, Int.zero_mul, Int.add_zero]
  exact toI_decode_bounds D l s i _

/-- `G s m`: what source `s` yields for its image number `m`, and only at neighbours of `tp` (`hnear`); the walk over `nbrs`
    looks the cell of a position up by `cellOf` -/
theorem images_perm {γ} (srcs : List Nat) (hs : ∀ s ∈ srcs, s < 2^(D*l)) (hnd : srcs.Nodup) (G : Nat → List Int → Option γ)
    (hnear : ∀ s m, (G s m).isSome → (vsub (virt D l s m) tp).all (fun o => decide (o.natAbs ≤ 1)) = true) :
    ((nbrs periodic (2^l) tp).filterMap fun q => if srcs.contains (cellOf D l q) then G (cellOf D l q) (upI l q) else none).Perm
      (srcs.flatMap fun s => (imageShifts D periodic).filterMap (G s)) := by
  refine filterMap_perm_pairs _ srcs (imageShifts D periodic) G (fun q => (cellOf D l q, upI l q)) (fun y => virt D l y.1 y.2)
    (nodup_nbrs periodic _ tp) hnd (nodup_imageShifts D periodic)
    (fun q hq => ⟨nbrs_image hD htp q hq, virt_cellOf D l q ((nbrs_bounds htp q hq).1.trans hD)⟩) ?_
  intro s hs' m hm hsome
  have hml := ((mem_imageShifts D periodic m).1 hm).1
  exact ⟨virt_mem_nbrs hD htp s m hm (hnear s m hsome), by simp only [cellOf_virt D l s (hs s hs') m hml, upI_virt_top D l s m hml]⟩

end

end Tbfmm
