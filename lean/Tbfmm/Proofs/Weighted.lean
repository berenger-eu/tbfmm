import Tbfmm.Proofs.Linear
import Tbfmm.Proofs.Values
/-!
The value theorems for any weights (in particular the packed ones of the driver and the harness), by linearity from the
indicator weights; hence the results depend neither on the grouping (C08) nor on the OpenMP submission order (C03).
-/
namespace Tbfmm

/-- weights are read by P2M, of the particles of a stored leaf, and by the direct calls, of what the lookup returns -/
theorem executeSeq_reads (t : Tree) {N : Nat} (hP : (t.pgroups.flatten.flatMap (·.parts)).Perm (List.range N))
    (periodic : Bool) (upper : Nat) : ∀ c ∈ executeSeq t periodic 63 upper, readsOnly (· < N) t.partsOf t.partsOf c := by
  intro c hc
  rw [executeSeq_all] at hc
  simp only [List.mem_append] at hc
  rcases hc with (((h | h) | h) | h) | h | h
  · obtain ⟨l, hl, rfl⟩ := p2mAll_form c h
    exact fun x hx => List.mem_range.1 (hP.subset (List.mem_flatMap.2 ⟨l, hl, hx⟩))
  · obtain ⟨_, _, _, rfl⟩ := m2mAll_form c h; trivial
  · obtain ⟨_, _, _, rfl⟩ := m2lAll_form c h; trivial
  · obtain ⟨_, _, _, rfl⟩ := l2lAll_form c h; trivial
  · obtain ⟨_, _, rfl⟩ := l2pAll_form c h; trivial
  · rcases p2pAll_form c h with ⟨src, tgt, _, rfl⟩ | ⟨leaf, rfl⟩
    · exact ⟨partsOf_lt t hP src, partsOf_lt t hP tgt⟩
    · exact partsOf_lt t hP leaf

/-- C01, any weights: every particle's result is the sum of the weights of all the other particles -/
theorem C01_values_weighted (D H bs : Nat) (mode : Bool) (leafIdx : List Nat) (upper : Nat)
    (hbs : 0 < bs) (hne : leafIdx ≠ []) (hH : 1 ≤ H) (hlt : ∀ i ∈ leafIdx, i < 2^(D*(H-1))) (hu : upper ≤ 2)
    (w : Nat → Nat) (p : Nat) (hp : p < leafIdx.length) :
    (applyCalls w (H-1) (Tree.build D H bs mode leafIdx).partsOf (Tree.build D H bs mode leafIdx).partsOf {}
      (executeSeq (Tree.build D H bs mode leafIdx) false 63 upper)).r p =
      sumOver (List.range leafIdx.length) (fun q => if p = q then 0 else w q) := by
  rw [result_decomp_reads _ _ _ _ w _ (executeSeq_reads _ (built_parts D H bs mode leafIdx hbs) false upper)]
  refine sumOver_congr (fun q hq => ?_)
  rw [C01_values D H bs mode leafIdx upper hbs hne hH hlt hu p q hp (List.mem_range.1 hq)]
  split <;> simp

/-- C08 at the level of values: for any weights, the particle results of a full execution are the same for any two block
    sizes and grouping modes -/
theorem C08_values (D H : Nat) (leafIdx : List Nat) (upper : Nat) (bs1 bs2 : Nat) (mode1 mode2 : Bool)
    (h1 : 0 < bs1) (h2 : 0 < bs2) (hne : leafIdx ≠ []) (hH : 1 ≤ H) (hlt : ∀ i ∈ leafIdx, i < 2^(D*(H-1))) (hu : upper ≤ 2)
    (w : Nat → Nat) (p : Nat) (hp : p < leafIdx.length) :
    (applyCalls w (H-1) (Tree.build D H bs1 mode1 leafIdx).partsOf (Tree.build D H bs1 mode1 leafIdx).partsOf {}
      (executeSeq (Tree.build D H bs1 mode1 leafIdx) false 63 upper)).r p =
    (applyCalls w (H-1) (Tree.build D H bs2 mode2 leafIdx).partsOf (Tree.build D H bs2 mode2 leafIdx).partsOf {}
      (executeSeq (Tree.build D H bs2 mode2 leafIdx) false 63 upper)).r p := by
  rw [C01_values_weighted D H bs1 mode1 leafIdx upper h1 hne hH hlt hu w p hp,
    C01_values_weighted D H bs2 mode2 leafIdx upper h2 hne hH hlt hu w p hp]

theorem results_perm (w : Nat → Nat) (L : Nat) (po po' : Nat → List Nat) (cs cs' : List Call) (h : cs.Perm cs')
    (hcs : ∀ c ∈ cs, isResultCall po c) (s : State) (p : Nat) :
    (applyCalls w L po po' s cs).r p = (applyCalls w L po po' s cs').r p := by
  rw [(phase_results w L po po' cs hcs s).1, (phase_results w L po po' cs' (fun c hc => hcs c (h.symm.subset hc)) s).1,
    sumOver_perm _ (h.flatMap_right _)]

/-- the result phases may be run in either order (L2P before P2P: sequential; P2P before L2P: OpenMP submission) -/
theorem results_order (w : Nat → Nat) (L : Nat) (po po' : Nat → List Nat) (A B : List Call)
    (hA : ∀ c ∈ A, isResultCall po c) (hB : ∀ c ∈ B, isResultCall po c) (s : State) (p : Nat) :
    (applyCalls w L po po' s (A ++ B)).r p = (applyCalls w L po po' s (B ++ A)).r p :=
  results_perm w L po po' _ _ List.perm_append_comm (fun c hc => (List.mem_append.1 hc).elim (hA c) (hB c)) s p

/-- C03 at the level of values: the OpenMP executor's submission order gives every particle the sum of the weights of
    all the others, like the sequential executor -/
theorem C03_omp_values (D H bs : Nat) (mode : Bool) (leafIdx : List Nat) (upper : Nat)
    (hbs : 0 < bs) (hne : leafIdx ≠ []) (hH : 1 ≤ H) (hlt : ∀ i ∈ leafIdx, i < 2^(D*(H-1))) (hu : upper ≤ 2)
    (w : Nat → Nat) (p : Nat) (hp : p < leafIdx.length) :
    (applyCalls w (H-1) (Tree.build D H bs mode leafIdx).partsOf (Tree.build D H bs mode leafIdx).partsOf {}
      (executeOmp (Tree.build D H bs mode leafIdx) false 63 upper)).r p =
      sumOver (List.range leafIdx.length) (fun q => if p = q then 0 else w q) := by
  rw [← C01_values_weighted D H bs mode leafIdx upper hbs hne hH hlt hu w p hp]
  have F := built_facts D H bs mode leafIdx hbs hne hH hlt
  rw [executeOmp_all, executeSeq_all, applyCalls_append _ _ _ _ _ _ (p2pAll _ _ _ _ ++ l2pAll _ _),
    applyCalls_append _ _ _ _ _ _ (l2pAll _ _ ++ p2pAll _ _ _ _)]
  exact results_order w (H-1) _ _ _ _ (p2pAll_isResult _ false _ _ _) (F.l2pAll_isResult upper) _ p

/-- periodic, any weights: every particle's result is `3^D` times the total weight minus its own weight -/
theorem C01_values_periodic_weighted (D H bs : Nat) (mode : Bool) (leafIdx : List Nat) (upper : Nat)
    (hbs : 0 < bs) (hne : leafIdx ≠ []) (hH : 1 ≤ H) (hlt : ∀ i ∈ leafIdx, i < 2^(D*(H-1))) (hu : upper ≤ 1)
    (w : Nat → Nat) (p : Nat) (hp : p < leafIdx.length) :
    (applyCalls w (H-1) (Tree.build D H bs mode leafIdx).partsOf (Tree.build D H bs mode leafIdx).partsOf {}
      (executeSeq (Tree.build D H bs mode leafIdx) true 63 upper)).r p =
      sumOver (List.range leafIdx.length) (fun q => w q * (3^D - if p = q then 1 else 0)) := by
  rw [result_decomp_reads _ _ _ _ w _ (executeSeq_reads _ (built_parts D H bs mode leafIdx hbs) true upper)]
  refine sumOver_congr (fun q hq => ?_)
  rw [C01_values_periodic D H bs mode leafIdx upper hbs hne hH hlt hu p q hp (List.mem_range.1 hq)]

/-- the calls of a target/source run read weights of source particles only -/
theorem executeTsm_reads (tS tT : Tree) {N : Nat} (hP : (tS.pgroups.flatten.flatMap (·.parts)).Perm (List.range N))
    (periodic : Bool) (upper : Nat) (omp : Bool) :
    ∀ c ∈ executeTsm tS tT periodic 63 upper omp, readsOnly (· < N) tT.partsOf tS.partsOf c := by
  intro c hc
  rw [executeTsm_all] at hc
  simp only [List.mem_append] at hc
  rcases hc with (((h | h) | h) | h) | h
  · obtain ⟨l, hl, rfl⟩ := p2mAll_form c h
    exact fun x hx => List.mem_range.1 (hP.subset (List.mem_flatMap.2 ⟨l, hl, hx⟩))
  · obtain ⟨_, _, _, rfl⟩ := m2mAll_form c h; trivial
  · obtain ⟨_, _, _, rfl⟩ := m2lAllTsm_form c h; trivial
  · obtain ⟨_, _, _, rfl⟩ := l2lAll_form c h; trivial
  · -- the two result phases, in the order `omp` selects
    have : c ∈ l2pAll tT upper ∨ c ∈ p2pAllTsm tT.D periodic tT.H tT.leafGroups tS.leafGroups := by
      cases omp <;> simpa [or_comm] using h
    rcases this with h | h
    · obtain ⟨_, _, rfl⟩ := l2pAll_form c h; trivial
    · obtain ⟨src, _, _, rfl⟩ := p2pAllTsm_form c h; exact partsOf_lt tS hP src

/-- C09, any weights: every target particle's result is the total weight of the source particles -/
theorem C09_values_weighted (D H bsS bsT : Nat) (modeS modeT : Bool) (srcIdx tgtIdx : List Nat) (upper : Nat)
    (hbsS : 0 < bsS) (hbsT : 0 < bsT) (hneS : srcIdx ≠ []) (hneT : tgtIdx ≠ []) (hH : 1 ≤ H)
    (hltS : ∀ i ∈ srcIdx, i < 2^(D*(H-1))) (hltT : ∀ i ∈ tgtIdx, i < 2^(D*(H-1))) (hu : upper ≤ 2)
    (w : Nat → Nat) (p : Nat) (hp : p < tgtIdx.length) :
    (applyCalls w (H-1) (Tree.build D H bsT modeT tgtIdx).partsOf (Tree.build D H bsS modeS srcIdx).partsOf {}
      (executeTsm (Tree.build D H bsS modeS srcIdx) (Tree.build D H bsT modeT tgtIdx) false 63 upper)).r p =
      sumOver (List.range srcIdx.length) w := by
  rw [result_decomp_reads _ _ _ _ w _ (executeTsm_reads _ _ (built_parts D H bsS modeS srcIdx hbsS) false upper false)]
  refine sumOver_congr (fun q hq => ?_)
  rw [C09_values D H bsS bsT modeS modeT srcIdx tgtIdx upper hbsS hbsT hneS hneT hH hltS hltT hu p q hp (List.mem_range.1 hq), Nat.mul_one]

/-- C09 / C03 at the level of values: the OpenMP target/source executor's submission order (direct interactions before
    L2P) gives every target the same value as the sequential order -/
theorem C09_omp_values (D H bsS bsT : Nat) (modeS modeT : Bool) (srcIdx tgtIdx : List Nat) (upper : Nat)
    (hbsS : 0 < bsS) (hbsT : 0 < bsT) (hneS : srcIdx ≠ []) (hneT : tgtIdx ≠ []) (hH : 1 ≤ H)
    (hltS : ∀ i ∈ srcIdx, i < 2^(D*(H-1))) (hltT : ∀ i ∈ tgtIdx, i < 2^(D*(H-1))) (hu : upper ≤ 2)
    (w : Nat → Nat) (p : Nat) (hp : p < tgtIdx.length) :
    (applyCalls w (H-1) (Tree.build D H bsT modeT tgtIdx).partsOf (Tree.build D H bsS modeS srcIdx).partsOf {}
      (executeTsm (Tree.build D H bsS modeS srcIdx) (Tree.build D H bsT modeT tgtIdx) false 63 upper true)).r p =
      sumOver (List.range srcIdx.length) w := by
  rw [← C09_values_weighted D H bsS bsT modeS modeT srcIdx tgtIdx upper hbsS hbsT hneS hneT hH hltS hltT hu w p hp]
  have FT := built_facts D H bsT modeT tgtIdx hbsT hneT hH hltT
  rw [executeTsm_all, executeTsm_all, if_pos rfl, if_neg Bool.false_ne_true,
    applyCalls_append _ _ _ _ _ _ (p2pAllTsm _ _ _ _ _ ++ l2pAll _ _), applyCalls_append _ _ _ _ _ _ (l2pAll _ _ ++ p2pAllTsm _ _ _ _ _)]
  exact results_order w (H-1) _ _ _ _ (p2pAllTsm_isResult _ false _ _ _ _) (FT.l2pAll_isResult upper) _ p

end Tbfmm
