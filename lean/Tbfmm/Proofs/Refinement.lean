import Tbfmm.Proofs.Grouping
import Tbfmm.Proofs.M2LChar
import Tbfmm.Proofs.P2PChar
/-! The executors refine the cell-level specification (C01, C02, C08, C09): from `BuiltFacts`, one `_refines` lemma per
phase (`F.x` for one tree, `x FS FT` for a source and a target tree).  Trees, shapes and `BuiltFacts` are passed source first
(`tS tT`, `FS FT`, as `executeTsm`); cell lists and particle look-ups target first (`tgts srcs`, `po po'`, as `specM2LLevel` /
`applyCall`). -/
namespace Tbfmm

def shapeOf (ls : List Leaf) : Shape := ls.map fun l => (l.idx, l.parts)

theorem nOf_leaf (ls : List Leaf) (hn : (ls.map (·.idx)).Nodup) (l : Leaf) (hl : l ∈ ls) :
    (((shapeOf ls).filter (·.1 == l.idx)).map (·.2.length)).sum = l.parts.length := by
  simp only [shapeOf, List.filter_map, Function.comp_def, filter_key_eq_singleton (·.idx) hn hl, List.map_cons, List.map_nil,
    List.sum_cons, List.sum_nil, Nat.add_zero]

theorem shapeOf_fst (ls : List Leaf) : (shapeOf ls).map (·.1) = ls.map (·.idx) := by
  simp [shapeOf, List.map_map]

/-- everything the refinement needs to know about a built tree -/
structure BuiltFacts (D H : Nat) (T : Tree) (ls : List Leaf) : Prop where
  hH : T.H = H
  hD : T.D = D
  pg : T.pgroups.flatten = ls
  sorted : (ls.map (·.idx)).Pairwise (· < ·)
  leaves : sortDedup ((shapeOf ls).map (·.1)) = ls.map (·.idx)
  bound : ∀ i ∈ ls.map (·.idx), i < 2^(D*(H-1))
  cells : ∀ l, l < H → (T.level l).flatten = specCells D (H-1) (ls.map (·.idx)) l
  inv : ∀ l, l < H → GroupsInv (T.level l)
  last : T.leafGroups = T.level (H-1)
  links : ∀ l, l + 1 < H → linksOf (calls (parent D) (T.level l) (T.level (l+1))) = (T.level (l+1)).flatten.map (link (parent D))

theorem built_facts (D H bs : Nat) (mode : Bool) (leafIdx : List Nat) (hbs : 0 < bs) (hne : leafIdx ≠ []) (hH : 1 ≤ H)
    (hlt : ∀ i ∈ leafIdx, i < 2^(D*(H-1))) :
    BuiltFacts D H (Tree.build D H bs mode leafIdx) (Tree.build D H bs mode leafIdx).pgroups.flatten := by
  obtain ⟨_, hH', hD'⟩ := build_levels_eq D H bs mode leafIdx hne
  have hpg := build_pgroups_flatten D H bs mode leafIdx hbs
  have hsorted : (((Tree.build D H bs mode leafIdx).pgroups.flatten).map (·.idx)).Pairwise (· < ·) := by
    rw [hpg]; exact leavesOf_sorted _ (sortPairs_sorted _)
  refine ⟨hH', hD', rfl, hsorted, ?_, ?_, ?_, built_groupsInv D H bs mode leafIdx hbs hne,
    (built_level_last D H bs mode leafIdx hbs hne).symm, C01_links_of_built_tree' D H bs mode leafIdx hbs hne⟩
  · rw [shapeOf_fst]; exact sortDedup_of_sorted _ hsorted
  · intro i hi
    obtain ⟨l, hl, rfl⟩ := List.mem_map.mp hi
    exact hlt _ (build_leaf_idx D H bs mode leafIdx hbs l hl)
  · intro l hl
    have hl' : l ≤ H - 1 := Nat.le_sub_one_of_lt hl
    rw [built_level_flatten D H bs mode leafIdx hbs hne hH l, if_pos hl', ← hpg,
      cellsUp_eq_specCells D (H-1) (H-1-l) (Nat.sub_le _ _) _ hsorted, Nat.sub_sub_self hl']

namespace BuiltFacts

variable {D H : Nat} {T : Tree} {ls : List Leaf} (F : BuiltFacts D H T ls)
include F

theorem nodup : (ls.map (·.idx)).Nodup := F.sorted.imp Nat.ne_of_lt

theorem leafCells (hH : 1 ≤ H) : (T.level (H-1)).flatten = ls.map (·.idx) := by
  rw [F.cells (H-1) (Nat.sub_one_lt_of_lt hH), specCells_leaf _ _ _ F.sorted]

theorem leafPass_elems (mk : Nat → List Nat → Call) (me : Nat → Nat → Elem)
    (hmk : ∀ i ps, elemsOfCall (mk i ps) = [me i ps.length]) (n : Nat → Nat) (hn : ∀ l ∈ ls, n l.idx = l.parts.length)
    (upper : Nat) :
    (if T.H > upper then T.pgroups.flatMap fun g => g.map fun l => mk l.idx l.parts else []).flatMap elemsOfCall =
      if H > upper then (ls.map (·.idx)).map fun i => me i (n i) else [] := by
  rw [F.hH]
  split
  · rw [leafCalls_elems mk me hmk, F.pg, List.map_map]
    exact List.map_congr_left fun l hl => by rw [Function.comp, hn l hl]
  · rfl

theorem p2mAll_refines (upper : Nat) :
    (p2mAll T upper).flatMap elemsOfCall = if H > upper then
      (ls.map (·.idx)).map fun i => Elem.p2m i (((shapeOf ls).filter (·.1 == i)).map (·.2.length)).sum else [] :=
  F.leafPass_elems Call.p2m Elem.p2m (fun _ _ => rfl) _ (nOf_leaf ls F.nodup) upper

theorem l2pAll_refines (upper : Nat) :
    (l2pAll T upper).flatMap elemsOfCall = if H > upper then
      (ls.map (·.idx)).map fun i => Elem.l2p i (((shapeOf ls).filter (·.1 == i)).map (·.2.length)).sum else [] :=
  F.leafPass_elems Call.l2p Elem.l2p (fun _ _ => rfl) _ (nOf_leaf ls F.nodup) upper

theorem m2mLevel_refines (ℓ : Nat) (hℓ : ℓ + 1 < H) :
    (m2mLevel D ℓ (T.level ℓ) (T.level (ℓ+1))).flatMap elemsOfCall =
      (specCells D (H-1) (ls.map (·.idx)) (ℓ+1)).map fun c => Elem.m2m ℓ (parent D c) c (childCode D c) := by
  rw [m2mLevel_elems, F.links ℓ hℓ, F.cells (ℓ+1) hℓ, List.map_map]
  rfl

theorem l2lLevel_refines (ℓ : Nat) (hℓ : ℓ + 1 < H) :
    (l2lLevel D ℓ (T.level ℓ) (T.level (ℓ+1))).flatMap elemsOfCall =
      (specCells D (H-1) (ls.map (·.idx)) (ℓ+1)).map fun c => Elem.l2l ℓ (parent D c) c (childCode D c) := by
  rw [l2lLevel_elems, F.links ℓ hℓ, F.cells (ℓ+1) hℓ, List.map_map]
  rfl

theorem m2mAll_eq (upper : Nat) :
    m2mAll T upper = (midLevels H upper).reverse.flatMap fun ℓ => m2mLevel D ℓ (T.level ℓ) (T.level (ℓ+1)) := by
  rw [m2mAll, F.hH, F.hD]

theorem l2lAll_eq (upper : Nat) :
    l2lAll T upper = (midLevels H upper).flatMap fun ℓ => l2lLevel D ℓ (T.level ℓ) (T.level (ℓ+1)) := by
  rw [l2lAll, F.hH, F.hD]

/-- the upward pass visits the levels in descending order, the specification lists them ascending -/
theorem m2mAll_refines (upper : Nat) :
    ((m2mAll T upper).flatMap elemsOfCall).Perm
      ((specLinks D (H-1) (ls.map (·.idx)) H upper).map fun (l, p, c, k) => Elem.m2m l p c k) := by
  rw [F.m2mAll_eq, specLinks, List.flatMap_assoc, List.map_flatMap]
  refine (List.Perm.flatMap_right _ (List.reverse_perm _)).trans (.of_eq ?_)
  refine flatMap_congr_left fun l hl => ?_
  rw [F.m2mLevel_refines l (mem_midLevels.1 hl).2, List.map_map]
  rfl

theorem l2lAll_refines (upper : Nat) :
    (l2lAll T upper).flatMap elemsOfCall =
      (specLinks D (H-1) (ls.map (·.idx)) H upper).map fun (l, p, c, k) => Elem.l2l l p c k := by
  rw [F.l2lAll_eq, specLinks, List.flatMap_assoc, List.map_flatMap]
  refine flatMap_congr_left fun l hl => ?_
  rw [F.l2lLevel_refines l (mem_midLevels.1 hl).2, List.map_map]
  rfl

theorem p2pAll_refines (hH : 1 ≤ H) (periodic : Bool) :
    ((p2pAll D periodic H T.leafGroups).flatMap elemsOfCall).Perm
      (specP2P D periodic (H-1) (ls.map (·.idx)) ++ (ls.map (·.idx)).map Elem.p2pInner) := by
  rw [F.last]
  refine (p2pAll_cells D periodic H _ (F.inv (H-1) (Nat.sub_one_lt_of_lt hH))).trans ?_
  rw [F.leafCells hH]
  exact (p2p_level_char D periodic (H-1) _ F.bound F.nodup).append_right _

theorem m2lLevel_refines (periodic : Bool) (ℓ : Nat) (hℓ : ℓ < H) :
    ((m2lLevel D periodic ℓ (T.level ℓ)).flatMap elemsOfCall).Perm
      (specM2LLevel D periodic ℓ (specCells D (H-1) (ls.map (·.idx)) ℓ) (specCells D (H-1) (ls.map (·.idx)) ℓ)) := by
  refine (m2lLevel_cells D periodic ℓ _ (F.inv ℓ hℓ)).trans ?_
  rw [F.cells ℓ hℓ]
  exact m2l_level_char D periodic ℓ _ _ (specCells_lt D (H-1) _ ℓ (Nat.le_sub_one_of_lt hℓ) F.bound) specCells_nodup

theorem m2lAll_refines (periodic : Bool) (upper : Nat) :
    ((m2lAll T periodic upper).flatMap elemsOfCall).Perm ((m2lLevels H upper).flatMap fun ℓ =>
      specM2LLevel D periodic ℓ (specCells D (H-1) (ls.map (·.idx)) ℓ) (specCells D (H-1) (ls.map (·.idx)) ℓ)) := by
  rw [m2lAll, F.hH, F.hD, List.flatMap_assoc]
  exact flatMap_perm_of_forall fun ℓ hℓ => F.m2lLevel_refines periodic ℓ (mem_m2lLevels.1 hℓ).2

theorem seq_refines (hH : 1 ≤ H) (periodic : Bool) (flags upper : Nat) :
    ((executeSeq T periodic flags upper).flatMap elemsOfCall).Perm (specElems D H periodic (shapeOf ls) flags upper) := by
  unfold executeSeq specElems
  simp only [List.flatMap_append, ite_and_decide, F.leaves]
  refine .append (.append (.append (.append (.append ?_ ?_) ?_) ?_) ?_) ?_ <;> refine flatMap_ite_perm fun _ => ?_
  · exact .of_eq (F.p2mAll_refines upper)
  · exact F.m2mAll_refines upper
  · exact F.m2lAll_refines periodic upper
  · exact .of_eq (F.l2lAll_refines upper)
  · exact .of_eq (F.l2pAll_refines upper)
  · rw [F.hH, F.hD]
    exact F.p2pAll_refines hH periodic

end BuiltFacts

/-- (C01, C02) on a built tree `execute` performs the multiset `specElems` of the occupied leaves and their particles,
    which depend neither on `bs` nor on `mode` (`build_pgroups_flatten`) -/
theorem exec_refines_spec (D H bs : Nat) (mode : Bool) (leafIdx : List Nat) (periodic : Bool) (flags upper : Nat)
    (hbs : 0 < bs) (hne : leafIdx ≠ []) (hH : 1 ≤ H) (hlt : ∀ i ∈ leafIdx, i < 2^(D*(H-1))) :
    ((executeSeq (Tree.build D H bs mode leafIdx) periodic flags upper).flatMap elemsOfCall).Perm
      (specElems D H periodic (shapeOf (Tree.build D H bs mode leafIdx).pgroups.flatten) flags upper) :=
  (built_facts D H bs mode leafIdx hbs hne hH hlt).seq_refines hH periodic flags upper

section
variable {D H : Nat} {tS tT : Tree} {lsS lsT : List Leaf} (FS : BuiltFacts D H tS lsS) (FT : BuiltFacts D H tT lsT)
include FS FT

theorem m2lTsm_level_refines (periodic : Bool) (ℓ : Nat) (hℓ : ℓ < H) :
    ((m2lLevelTsm D periodic ℓ (tT.level ℓ) (tS.level ℓ)).flatMap elemsOfCall).Perm
      (specM2LLevel D periodic ℓ (specCells D (H-1) (lsT.map (·.idx)) ℓ) (specCells D (H-1) (lsS.map (·.idx)) ℓ)) := by
  refine (m2lLevelTsm_cells D periodic ℓ _ _ (FS.inv ℓ hℓ)).trans ?_
  rw [FS.cells ℓ hℓ, FT.cells ℓ hℓ]
  exact m2l_level_char D periodic ℓ _ _ (specCells_lt D (H-1) _ ℓ (Nat.le_sub_one_of_lt hℓ) FS.bound) specCells_nodup

theorem m2lAllTsm_refines (periodic : Bool) (upper : Nat) :
    ((m2lAllTsm tS tT periodic upper).flatMap elemsOfCall).Perm ((m2lLevels H upper).flatMap fun ℓ =>
      specM2LLevel D periodic ℓ (specCells D (H-1) (lsT.map (·.idx)) ℓ) (specCells D (H-1) (lsS.map (·.idx)) ℓ)) := by
  rw [m2lAllTsm, FT.hH, FT.hD, List.flatMap_assoc]
  exact flatMap_perm_of_forall fun ℓ hℓ => m2lTsm_level_refines FS FT periodic ℓ (mem_m2lLevels.1 hℓ).2

theorem p2pTsm_refines (hH : 1 ≤ H) (periodic : Bool) :
    ((p2pAllTsm D periodic H tT.leafGroups tS.leafGroups).flatMap elemsOfCall).Perm
      (specP2PTsm D periodic (H-1) (lsT.map (·.idx)) (lsS.map (·.idx))) := by
  rw [FS.last, FT.last]
  refine (p2pAllTsm_cells D periodic H _ _ (FS.inv (H-1) (Nat.sub_one_lt_of_lt hH))).trans ?_
  rw [FS.leafCells hH, FT.leafCells hH]
  exact p2pTsm_level_char D periodic (H-1) _ _ FT.bound FS.bound FS.nodup

theorem tsm_refines (hH : 1 ≤ H) (periodic : Bool) (flags upper : Nat) (omp : Bool) :
    ((executeTsm tS tT periodic flags upper omp).flatMap elemsOfCall).Perm
      (specElemsTsm D H periodic (shapeOf lsS) (shapeOf lsT) flags upper) := by
  unfold executeTsm specElemsTsm
  simp only [List.flatMap_append, ite_and_decide, FS.leaves, FT.leaves]
  -- the last two phases as one block: the two submission orders differ by `perm_append_comm` inside it
  rw [List.append_assoc (_ ++ _ ++ _ ++ _)]
  have hl2p := flatMap_ite_perm (c := hasFlag flags flagL2P = true) fun _ => List.Perm.of_eq (FT.l2pAll_refines upper)
  have hp2p := flatMap_ite_perm (c := hasFlag flags flagP2P = true) fun _ => p2pTsm_refines FS FT hH periodic
  refine .append (.append (.append (.append ?_ ?_) ?_) ?_) ?_
  · exact flatMap_ite_perm fun _ => .of_eq (FS.p2mAll_refines upper)
  · exact flatMap_ite_perm fun _ => FS.m2mAll_refines upper
  · exact flatMap_ite_perm fun _ => m2lAllTsm_refines FS FT periodic upper
  · exact flatMap_ite_perm fun _ => .of_eq (FT.l2lAll_refines upper)
  · rw [FT.hH, FT.hD]
    cases omp
    · rw [if_neg Bool.false_ne_true, List.flatMap_append]
      exact hl2p.append hp2p
    · rw [if_pos rfl, List.flatMap_append]
      exact List.perm_append_comm.trans (hl2p.append hp2p)

end

/-- (C09) on built source and target trees `executeTsm`, in sequential or OpenMP submission order, performs the multiset
    `specElemsTsm` -/
theorem execTsm_refines_spec (D H bsS bsT : Nat) (modeS modeT : Bool) (srcIdx tgtIdx : List Nat) (periodic : Bool)
    (flags upper : Nat) (omp : Bool)
    (hbsS : 0 < bsS) (hbsT : 0 < bsT) (hneS : srcIdx ≠ []) (hneT : tgtIdx ≠ []) (hH : 1 ≤ H)
    (hltS : ∀ i ∈ srcIdx, i < 2^(D*(H-1))) (hltT : ∀ i ∈ tgtIdx, i < 2^(D*(H-1))) :
    ((executeTsm (Tree.build D H bsS modeS srcIdx) (Tree.build D H bsT modeT tgtIdx) periodic flags upper omp).flatMap elemsOfCall).Perm
      (specElemsTsm D H periodic (shapeOf (Tree.build D H bsS modeS srcIdx).pgroups.flatten)
        (shapeOf (Tree.build D H bsT modeT tgtIdx).pgroups.flatten) flags upper) :=
  tsm_refines (built_facts D H bsS modeS srcIdx hbsS hneS hH hltS) (built_facts D H bsT modeT tgtIdx hbsT hneT hH hltT)
    hH periodic flags upper omp

theorem C08_grouping_independent_tsm (D H : Nat) (srcIdx tgtIdx : List Nat) (periodic : Bool) (flags upper : Nat) (omp : Bool)
    (bsS1 bsT1 bsS2 bsT2 : Nat) (mS1 mT1 mS2 mT2 : Bool)
    (h1 : 0 < bsS1) (h2 : 0 < bsT1) (h3 : 0 < bsS2) (h4 : 0 < bsT2)
    (hneS : srcIdx ≠ []) (hneT : tgtIdx ≠ []) (hH : 1 ≤ H)
    (hltS : ∀ i ∈ srcIdx, i < 2^(D*(H-1))) (hltT : ∀ i ∈ tgtIdx, i < 2^(D*(H-1))) :
    ((executeTsm (Tree.build D H bsS1 mS1 srcIdx) (Tree.build D H bsT1 mT1 tgtIdx) periodic flags upper omp).flatMap elemsOfCall).Perm
      ((executeTsm (Tree.build D H bsS2 mS2 srcIdx) (Tree.build D H bsT2 mT2 tgtIdx) periodic flags upper omp).flatMap elemsOfCall) := by
  have r1 := execTsm_refines_spec D H bsS1 bsT1 mS1 mT1 srcIdx tgtIdx periodic flags upper omp h1 h2 hneS hneT hH hltS hltT
  have r2 := execTsm_refines_spec D H bsS2 bsT2 mS2 mT2 srcIdx tgtIdx periodic flags upper omp h3 h4 hneS hneT hH hltS hltT
  refine r1.trans (List.Perm.trans (List.Perm.of_eq ?_) r2.symm)
  rw [build_pgroups_flatten D H bsS1 mS1 srcIdx h1, build_pgroups_flatten D H bsS2 mS2 srcIdx h3,
    build_pgroups_flatten D H bsT1 mT1 tgtIdx h2, build_pgroups_flatten D H bsT2 mT2 tgtIdx h4]

theorem executeOmp_perm_seq (t : Tree) (periodic : Bool) (flags upper : Nat) :
    ((executeOmp t periodic flags upper).flatMap elemsOfCall).Perm ((executeSeq t periodic flags upper).flatMap elemsOfCall) := by
  unfold executeOmp executeSeq
  simp only [List.flatMap_append, List.append_assoc]
  refine List.Perm.append_left _ (List.Perm.append_left _ (List.Perm.append_left _ (List.Perm.append_left _ ?_)))
  exact List.perm_append_comm

/-- the OpenMP executor's submissions refine the cell-level specification -/
theorem execOmp_refines_spec (D H bs : Nat) (mode : Bool) (leafIdx : List Nat) (periodic : Bool) (flags upper : Nat)
    (hbs : 0 < bs) (hne : leafIdx ≠ []) (hH : 1 ≤ H) (hlt : ∀ i ∈ leafIdx, i < 2^(D*(H-1))) :
    ((executeOmp (Tree.build D H bs mode leafIdx) periodic flags upper).flatMap elemsOfCall).Perm
      (specElems D H periodic (shapeOf (Tree.build D H bs mode leafIdx).pgroups.flatten) flags upper) :=
  (executeOmp_perm_seq _ periodic flags upper).trans (exec_refines_spec D H bs mode leafIdx periodic flags upper hbs hne hH hlt)

/-- `hne` and `hlt` of the refinement theorems can be met -/
example : ([0, 5, 15] : List Nat) ≠ [] ∧ (∀ i ∈ ([0, 5, 15] : List Nat), i < 2^(2*(3-1))) := by decide

end Tbfmm
