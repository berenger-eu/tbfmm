import Tbfmm.Spec.Fmm
/-! The elementary interaction that an entry of a per-cell list stands for. -/
namespace Tbfmm

def elemM2L (level : Nat) (x : Inter) : Elem := Elem.m2l level x.tgt x.src x.code

def elemP2P (x : Inter) : Elem := Elem.p2p x.src x.tgt x.code

def elemP2PTsm (x : Inter) : Elem := Elem.p2pTsm x.src x.tgt x.code

end Tbfmm
