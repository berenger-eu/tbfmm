import Tbfmm.Model.Layout
/-! Layout arithmetic of the group buffers (C14, and the in-bounds part of C15) -/
namespace Tbfmm

theorem leadDim_ge (s n : Nat) : s * n ≤ leadDim s n := by
  unfold leadDim memAlign; omega

theorem leadDim_mod (s n : Nat) : leadDim s n % 64 = 0 := Nat.mul_mod_left _ 64

theorem leadDim_lt (s n : Nat) : leadDim s n < s * n + 64 := by
  unfold leadDim memAlign; omega

theorem slot_end_le {i n : Nat} (a : Nat) (h : i < n) : i * a + a ≤ n * a :=
  Nat.succ_mul i a ▸ Nat.mul_le_mul_right a h

theorem cell_end_le {i n r m a b : Nat} (hi : i < n) (hr : r < m) (hab : n * a ≤ b) : r * b + i * a + a ≤ m * b := by
  have h1 := slot_end_le a hi
  have h2 := slot_end_le b hr
  omega

/-- every element accessor stays inside its block (a scalar block holds exactly one item) -/
theorem itemAddr_in_block (b : BlockDef) (off n i row : Nat)
    (hi : match b.kind with
          | .scalar => n = 1
          | .vector => i < n
          | .multiR rows => i < n ∧ row < rows
          | .multiV rows => i < n ∧ row < rows) :
    off ≤ itemAddr b off n i row ∧ itemAddr b off n i row + b.size ≤ off + b.bytes n := by
  obtain ⟨kind, s⟩ := b
  cases kind with
  | scalar =>
    have := leadDim_ge s 1
    simp only at hi
    simp only [itemAddr, BlockDef.bytes, hi]; omega
  | vector =>
    have := cell_end_le (r := 0) (m := 1) hi Nat.one_pos (Nat.mul_comm s n ▸ leadDim_ge s n)
    simp only [itemAddr, BlockDef.bytes]; omega
  | multiR rows =>
    have := cell_end_le hi.1 hi.2 (Nat.mul_comm s n ▸ leadDim_ge s n)
    simp only [itemAddr, BlockDef.bytes]; omega
  | multiV rows =>
    have := cell_end_le hi.2 hi.1 (Nat.mul_comm s rows ▸ leadDim_ge s rows)
    simp only [itemAddr, BlockDef.bytes]; omega

/-- two different items of one block do not overlap (vector kind; the multi-row kinds add a row offset
    that is a multiple of the row stride) -/
theorem vector_items_disjoint (s off i j : Nat) (h : i < j) :
    itemAddr ⟨.vector, s⟩ off 0 i 0 + s ≤ itemAddr ⟨.vector, s⟩ off 0 j 0 := by
  have := slot_end_le s h
  simp only [itemAddr]; omega

theorem le_blocksEnd (defs : List BlockDef) (ns : List Nat) (acc : Nat) : acc ≤ blocksEnd defs ns acc := by
  fun_induction blocksEnd defs ns acc with
  | case1 b bs n ns acc ih => exact Nat.le_trans (Nat.le_add_right _ _) ih
  | case2 => exact Nat.le_refl _

theorem blockOffsets_head (defs : List BlockDef) (ns : List Nat) (acc o : Nat) (h : (blockOffsets defs ns acc)[0]? = some o) : o = acc := by
  unfold blockOffsets at h
  split at h
  · exact (Option.some.inj h).symm
  · exact nomatch h

/-- every block ends where the next one starts: the blocks of a buffer are pairwise disjoint and all lie below `blocksEnd` -/
theorem blockOffsets_chain (defs : List BlockDef) (ns : List Nat) (acc : Nat) (hl : defs.length = ns.length) :
    (blockOffsets defs ns acc).length = defs.length ∧
    (∀ k (hk : k < defs.length), ∃ o, (blockOffsets defs ns acc)[k]? = some o ∧ acc ≤ o ∧
        o + (defs[k]).bytes (ns.getD k 0) ≤ blocksEnd defs ns acc ∧
        (∀ o', (blockOffsets defs ns acc)[k+1]? = some o' → o + (defs[k]).bytes (ns.getD k 0) = o')) := by
  induction defs generalizing ns acc with
  | nil => exact ⟨rfl, fun k hk => nomatch hk⟩
  | cons b bs ih =>
    cases ns with
    | nil => exact nomatch hl
    | cons n ns =>
      obtain ⟨ihl, ihk⟩ := ih ns (acc + b.bytes n) (Nat.succ.inj hl)
      refine ⟨congrArg (· + 1) ihl, fun k hk => ?_⟩
      cases k with
      | zero =>
        exact ⟨acc, rfl, Nat.le_refl _, le_blocksEnd bs ns _, fun o' ho' => (blockOffsets_head bs ns _ o' ho').symm⟩
      | succ k =>
        obtain ⟨o, h1, h2, h3, h4⟩ := ihk k (Nat.lt_of_succ_lt_succ hk)
        exact ⟨o, h1, Nat.le_trans (Nat.le_add_right _ _) h2, h3, h4⟩

/-- the trailer (two tables of `NbBlocks` longs at the end of the allocation) never overlaps a block, however
    large the (possibly reused) allocation -/
theorem trailer_disjoint (defs : List BlockDef) (ns : List Nat) (alloc : Nat) (h : totalBytes defs ns ≤ alloc) :
    blocksEnd defs ns 0 ≤ trailerOffsetsPos alloc defs.length ∧
    trailerOffsetsPos alloc defs.length + 8 * defs.length = trailerCountsPos alloc defs.length ∧
    trailerCountsPos alloc defs.length + 8 * defs.length = alloc := by
  unfold totalBytes at h
  unfold trailerOffsetsPos trailerCountsPos
  omega

/-- a reused buffer is never smaller than what the new sizes need -/
theorem newAllocated_ge (allocated : Nat) (owns : Bool) (defs : List BlockDef) (ns : List Nat) :
    totalBytes defs ns ≤ newAllocated allocated owns defs ns := by
  unfold newAllocated
  split
  · exact Nat.le_refl _
  · rename_i h
    simp only [Bool.or_eq_true, decide_eq_true_eq, Bool.not_eq_true', not_or, Nat.not_lt] at h
    exact h.1

/-- element addresses are aligned to the element size when it divides 64 (block offsets are multiples of 64
    because every block size is; `hs0` is not needed) -/
theorem vector_item_aligned (s off i : Nat) (hoff : off % 64 = 0) (hs : 64 % s = 0) (hs0 : 0 < s) :
    itemAddr ⟨.vector, s⟩ off 0 i 0 % s = 0 := by
  -- `s ∣ 64 ∣ off` and `s ∣ i * s`
  exact Nat.mod_eq_zero_of_dvd (Nat.dvd_add (Nat.dvd_trans (Nat.dvd_of_mod_eq_zero hs) (Nat.dvd_of_mod_eq_zero hoff))
    (Nat.dvd_mul_left s i))

theorem mul_leadDim_mod (k s n : Nat) : k * leadDim s n % 64 = 0 := by
  rw [Nat.mul_mod, leadDim_mod, Nat.mul_zero, Nat.zero_mod]

theorem bytes_mod (b : BlockDef) (n : Nat) : b.bytes n % 64 = 0 := by
  obtain ⟨kind, s⟩ := b
  cases kind with
  | scalar => exact leadDim_mod s n
  | vector => exact leadDim_mod s n
  | multiR rows => exact mul_leadDim_mod rows s n
  | multiV rows => exact mul_leadDim_mod n s rows

end Tbfmm
