import Tbfmm.Proofs.ExecChain
/-! C12 — operator flags compose: staged runs equal a full run, each flag triggers only its operator, nothing is applied
above the upper working level -/
namespace Tbfmm

/-- masks of the first `k` operators of the sequential if-chain `P2M, M2M, M2L, L2L, L2P, P2P` -/
def seqPrefixMask : Nat → Nat
  | 0 => 0
  | 1 => 2
  | 2 => 2 + 4
  | 3 => 2 + 4 + 8
  | 4 => 2 + 4 + 8 + 16
  | 5 => 2 + 4 + 8 + 16 + 32
  | _ => 63

/-- masks of the first `k` operators of the OpenMP submission chain `P2M, M2M, M2L, L2L, P2P, L2P` -/
def ompPrefixMask : Nat → Nat
  | 0 => 0
  | 1 => 2
  | 2 => 2 + 4
  | 3 => 2 + 4 + 8
  | 4 => 2 + 4 + 8 + 16
  | 5 => 2 + 4 + 8 + 16 + 1
  | _ => 63

theorem hasFlag_and_table : ∀ flags < 64, ∀ mask < 64, ∀ f ∈ [1, 2, 4, 8, 16, 32],
    hasFlag (flags &&& mask) f = (hasFlag flags f && hasFlag mask f) := by
  intro flags _ mask _ f hf
  rw [show [1, 2, 4, 8, 16, 32] = (List.range 6).map (2 ^ ·) from by decide, List.mem_map] at hf
  obtain ⟨i, _, rfl⟩ := hf
  exact hasFlag_and flags mask i

theorem seqPrefixMask_cut (k : Nat) : ∃ j, IsCut [1, 2, 3, 4, 5, 0] j (seqPrefixMask k) (63 - seqPrefixMask k) := by
  rcases k with _|_|_|_|_|_|k
  · exact ⟨0, by decide⟩
  · exact ⟨1, by decide⟩
  · exact ⟨2, by decide⟩
  · exact ⟨3, by decide⟩
  · exact ⟨4, by decide⟩
  · exact ⟨5, by decide⟩
  · exact ⟨6, (by decide : IsCut _ 6 63 0)⟩

theorem ompPrefixMask_cut (k : Nat) : ∃ j, IsCut [1, 2, 3, 4, 0, 5] j (ompPrefixMask k) (63 - ompPrefixMask k) := by
  rcases k with _|_|_|_|_|_|k
  · exact ⟨0, by decide⟩
  · exact ⟨1, by decide⟩
  · exact ⟨2, by decide⟩
  · exact ⟨3, by decide⟩
  · exact ⟨4, by decide⟩
  · exact ⟨5, by decide⟩
  · exact ⟨6, (by decide : IsCut _ 6 63 0)⟩

/-- for every cut of the executor's chain, staged execution in dependency order performs exactly the kernel calls of
    one full run, in the same order (sequential executor; `hf` is not needed) -/
theorem C12_split_seq (t : Tree) (periodic : Bool) (upper flags : Nat) (hf : flags < 64) (k : Nat) :
    executeSeq t periodic flags upper =
      executeSeq t periodic (flags &&& seqPrefixMask k) upper ++ executeSeq t periodic (flags &&& (63 - seqPrefixMask k)) upper := by
  simp only [executeSeq_eq_chain]
  exact runChain_cut flags _ _ _ (seqPrefixMask_cut k)

/-- the same for the OpenMP executor's submission chain (`hf` is not needed) -/
theorem C12_split_omp (t : Tree) (periodic : Bool) (upper flags : Nat) (hf : flags < 64) (k : Nat) :
    executeOmp t periodic flags upper =
      executeOmp t periodic (flags &&& ompPrefixMask k) upper ++ executeOmp t periodic (flags &&& (63 - ompPrefixMask k)) upper := by
  simp only [executeOmp_eq_chain]
  exact runChain_cut flags _ _ _ (ompPrefixMask_cut k)

/-- the same for the sequential target/source executor (`hf` is not needed) -/
theorem C12_split_tsm (tS tT : Tree) (periodic : Bool) (upper flags : Nat) (hf : flags < 64) (k : Nat) :
    executeTsm tS tT periodic flags upper false =
      executeTsm tS tT periodic (flags &&& seqPrefixMask k) upper false ++ executeTsm tS tT periodic (flags &&& (63 - seqPrefixMask k)) upper false := by
  simp only [executeTsm_eq_chain]
  exact runChain_cut flags _ _ _ (seqPrefixMask_cut k)

/-- the same for the task-based target/source executors (`hf` is not needed) -/
theorem C12_split_tsm_omp (tS tT : Tree) (periodic : Bool) (upper flags : Nat) (hf : flags < 64) (k : Nat) :
    executeTsm tS tT periodic flags upper true =
      executeTsm tS tT periodic (flags &&& ompPrefixMask k) upper true ++ executeTsm tS tT periodic (flags &&& (63 - ompPrefixMask k)) upper true := by
  simp only [executeTsm_eq_chain]
  exact runChain_cut flags _ _ _ (ompPrefixMask_cut k)

/-- each flag alone triggers only its own operator -/
theorem C12_single (t : Tree) (periodic : Bool) (upper : Nat) :
    executeSeq t periodic flagP2M upper = p2mAll t upper ∧
    executeSeq t periodic flagM2M upper = m2mAll t upper ∧
    executeSeq t periodic flagM2L upper = m2lAll t periodic upper ∧
    executeSeq t periodic flagL2L upper = l2lAll t upper ∧
    executeSeq t periodic flagL2P upper = l2pAll t upper ∧
    executeSeq t periodic flagP2P upper = p2pAll t.D periodic t.H t.leafGroups := by
  simp [executeSeq, hasFlag, flagP2M, flagM2M, flagM2L, flagL2L, flagL2P, flagP2P]

/-- the same for the target/source executor (the transfer phase has no name of its own in the model and is not listed) -/
theorem C12_single_tsm (tS tT : Tree) (periodic : Bool) (upper : Nat) :
    executeTsm tS tT periodic flagP2M upper = p2mAll tS upper ∧
    executeTsm tS tT periodic flagM2M upper = m2mAll tS upper ∧
    executeTsm tS tT periodic flagL2L upper = l2lAll tT upper ∧
    executeTsm tS tT periodic flagL2P upper = l2pAll tT upper ∧
    executeTsm tS tT periodic flagP2P upper = p2pAllTsm tT.D periodic tT.H tT.leafGroups tS.leafGroups := by
  simp [executeTsm, hasFlag, flagP2M, flagM2M, flagM2L, flagL2L, flagL2P, flagP2P]

/-- no upward / downward translation above the upper working level or below level `H-2`, no transfer above it or
    below the leaf level -/
theorem C12_upper_levels (H upper : Nat) :
    (∀ l ∈ midLevels H upper, upper ≤ l ∧ l + 2 ≤ H) ∧ (∀ l ∈ m2lLevels H upper, upper ≤ l ∧ l + 1 ≤ H) :=
  ⟨fun _ h => mem_midLevels.1 h, fun _ h => mem_m2lLevels.1 h⟩

theorem C12_leaf_ops_guard (t : Tree) (upper : Nat) (h : ¬ t.H > upper) : p2mAll t upper = [] ∧ l2pAll t upper = [] := by
  simp [p2mAll, l2pAll, h]

/-- every M2M call of a run carries a parent level in `[upper, H-2]` (the L2L calls run over the same `midLevels`) -/
theorem C12_m2m_levels (t : Tree) (upper : Nat) : ∀ c ∈ m2mAll t upper, ∃ l p ch, c = Call.m2m l p ch ∧ upper ≤ l ∧ l + 2 ≤ t.H := by
  intro c hc
  simp only [m2mAll, List.mem_flatMap, List.mem_reverse] at hc
  obtain ⟨l, hl, hc⟩ := hc
  simp only [m2mLevel, List.mem_map] at hc
  obtain ⟨r, _, rfl⟩ := hc
  have := (C12_upper_levels t.H upper).1 l hl
  exact ⟨l, r.1, _, rfl, this.1, this.2⟩

example : seqPrefixMask 2 = 6 ∧ 63 - seqPrefixMask 2 = 57 := by decide

/-- the documented splits, bottom-to-top / transfer / top-to-bottom and near / far, partition the six operators; the
    near field is P2P alone -/
theorem C12_alias_partition :
    flagBottomToTop ||| flagTransfer ||| flagTopToBottom = 63 ∧
    flagBottomToTop &&& flagTransfer = 0 ∧ flagBottomToTop &&& flagTopToBottom = 0 ∧ flagTransfer &&& flagTopToBottom = 0 ∧
    flagNearField ||| flagFarField = 63 ∧ flagNearField &&& flagFarField = 0 ∧ flagNearAndFar = 63 ∧
    hasFlag flagFarField flagP2P = false ∧
    (∀ f ∈ [flagP2M, flagM2M, flagM2L, flagL2L, flagL2P], hasFlag flagNearField f = false ∧ hasFlag flagFarField f = true) := by decide

/-- far field then near field is a cut of the sequential chain (P2P is its last operator) -/
theorem C12_far_then_near (t : Tree) (periodic : Bool) (upper : Nat) :
    executeSeq t periodic flagNearAndFar upper = executeSeq t periodic flagFarField upper ++ executeSeq t periodic flagNearField upper :=
  C12_split_seq t periodic upper 63 (by decide) 5

end Tbfmm
