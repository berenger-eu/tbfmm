import Tbfmm.Spec.Fmm
/-! C18 — interaction counters report the true number of elementary interactions -/
namespace Tbfmm

/-- `TbfInteractionCounter::Counters` -/
structure Counters where
  p2m : Nat := 0
  m2m : Nat := 0
  m2l : Nat := 0
  l2l : Nat := 0
  l2p : Nat := 0
  p2p : Nat := 0
  p2pInner : Nat := 0
deriving Repr, DecidableEq

/-- `Counters::Reduce` -/
def Counters.reduce (a b : Counters) : Counters :=
  ⟨a.p2m + b.p2m, a.m2m + b.m2m, a.m2l + b.m2l, a.l2l + b.l2l, a.l2p + b.l2p, a.p2p + b.p2p, a.p2pInner + b.p2pInner⟩

/-- what one wrapped kernel call adds (`n leaf` = number of particles of a leaf) -/
def countCall (n : Nat → Nat) : Call → Counters
  | .p2m _ _ => { p2m := 1 }
  | .m2m _ _ ch => { m2m := ch.length }
  | .m2l _ _ ss => { m2l := ss.length }
  | .l2l _ _ ch => { l2l := ch.length }
  | .l2p _ _ => { l2p := 1 }
  | .p2p s t _ => { p2p := n s * n t }
  | .p2pTsm s t _ => { p2p := n s * n t }
  | .p2pInner l => { p2pInner := n l * n l - n l }

/-- what one elementary interaction counts for -/
def countElem (n : Nat → Nat) : Elem → Counters
  | .p2m _ _ => { p2m := 1 }
  | .m2m .. => { m2m := 1 }
  | .m2l .. => { m2l := 1 }
  | .l2l .. => { l2l := 1 }
  | .l2p _ _ => { l2p := 1 }
  | .p2p s t _ => { p2p := n s * n t }
  | .p2pTsm s t _ => { p2p := n s * n t }
  | .p2pInner l => { p2pInner := n l * n l - n l }

def total (cs : List Counters) : Counters := cs.foldl Counters.reduce {}

theorem reduce_comm (a b : Counters) : a.reduce b = b.reduce a := by
  simp [Counters.reduce, Nat.add_comm]

theorem reduce_assoc (a b c : Counters) : (a.reduce b).reduce c = a.reduce (b.reduce c) := by
  simp [Counters.reduce, Nat.add_assoc]

theorem reduce_zero (a : Counters) : a.reduce {} = a := by
  cases a; simp [Counters.reduce]

theorem zero_reduce (a : Counters) : ({} : Counters).reduce a = a := by
  rw [reduce_comm, reduce_zero]

theorem foldl_reduce (cs : List Counters) (a : Counters) : cs.foldl Counters.reduce a = a.reduce (total cs) := by
  induction cs generalizing a with
  | nil => exact (reduce_zero a).symm
  | cons c cs ih =>
    unfold total
    rw [List.foldl_cons, List.foldl_cons, ih, ih (({} : Counters).reduce c), zero_reduce, reduce_assoc]

theorem total_nil : total [] = {} := rfl

theorem total_cons (c : Counters) (cs : List Counters) : total (c :: cs) = c.reduce (total cs) := by
  rw [total, List.foldl_cons, foldl_reduce, zero_reduce]

theorem total_append (xs ys : List Counters) : total (xs ++ ys) = (total xs).reduce (total ys) := by
  rw [total, List.foldl_append, foldl_reduce ys]; rfl

theorem total_replicate (k : Nat) (c : Counters) :
    total (List.replicate k c) = ⟨k * c.p2m, k * c.m2m, k * c.m2l, k * c.l2l, k * c.l2p, k * c.p2p, k * c.p2pInner⟩ := by
  induction k with
  | zero => simp [total]
  | succ k ih => simp [List.replicate_succ, total_cons, ih, Counters.reduce, Nat.succ_mul, Nat.add_comm]

theorem total_map_total {α} (f : α → Counters) (ws : List (List α)) :
    total (ws.map fun w => total (w.map f)) = total (ws.flatten.map f) := by
  induction ws with
  | nil => rfl
  | cons w ws ih => rw [List.map_cons, List.flatten_cons, List.map_append, total_append, total_cons, ih]

/-- merging per-worker counters is independent of the order of the merge -/
theorem C18_merge_perm {xs ys : List Counters} (h : xs.Perm ys) : total xs = total ys :=
  h.foldl_eq' (fun x _ y _ z => by rw [reduce_assoc, reduce_comm x y, ← reduce_assoc]) _

theorem countCall_eq_elems (n : Nat → Nat) (c : Call) : countCall n c = total ((elemsOfCall c).map (countElem n)) := by
  -- a call with a list argument yields `length` elements that count the same: `total_replicate`
  cases c <;>
    simp [countCall, elemsOfCall, countElem, Function.comp_def, List.map_const', total_replicate, total_cons, total_nil, Counters.reduce]

/-- the counters of a call list are the counters of its elementary interactions: batching sources
    into calls does not matter -/
theorem C18_counts_are_elems (n : Nat → Nat) (cs : List Call) :
    total (cs.map (countCall n)) = total ((cs.flatMap elemsOfCall).map (countElem n)) := by
  -- a call is a batch of elementary interactions as a worker is a batch of calls
  rw [List.flatMap_def, ← total_map_total, List.map_map]
  exact congrArg total (List.map_congr_left fun c _ => countCall_eq_elems n c)

/-- any distribution of the calls over workers (any interleaving, any assignment) merges to the
    counters of the whole call list -/
theorem C18_workers (n : Nat → Nat) (perWorker : List (List Call)) (all : List Call) (h : perWorker.flatten.Perm all) :
    total (perWorker.map fun w => total (w.map (countCall n))) = total (all.map (countCall n)) :=
  (total_map_total (countCall n) perWorker).trans (C18_merge_perm (h.map _))

example : total [({ p2m := 1 } : Counters), { m2l := 3 }] = { p2m := 1, m2l := 3 } := by decide

end Tbfmm
