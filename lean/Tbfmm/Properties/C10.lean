import Tbfmm.Model.Periodic
/-! C10 — periodic mode: every image box of the repetition interval is reached exactly once.  Image offsets `k : List Int`
are in units of the real box. -/
namespace Tbfmm.C10

def inBox (lo hi : Int) (k : List Int) : Prop := ∀ x ∈ k, lo ≤ x ∧ x ≤ hi

/-- width (in real boxes) of the super-box of extended level `l` -/
def w (n l : Nat) : Int := 2 ^ (n + 3 - l)

/-- images inside the 3^D super-boxes around the real one at level `l`: `⌊k_d / w⌋ ∈ [-1, 1]` -/
def adjL (n l : Nat) (k : List Int) : Prop := inBox (-(w n l)) (2 * w n l - 1) k

/-- images summed by the transfer of level `l` (`n ≥ 1`): window `[-3,2]` at level 3, `[-2,3]` above, minus `adjL` -/
def winL (n l : Nat) (k : List Int) : Prop :=
  (if l = 3 then inBox (-3 * w n l) (3 * w n l - 1) k else inBox (-2 * w n l) (4 * w n l - 1) k) ∧ ¬ adjL n l k

theorem w_pos (n l : Nat) : 0 < w n l := by unfold w; exact Int.pow_pos (by omega)

theorem w_succ (n l : Nat) (h : l + 1 ≤ n + 3) : w n l = 2 * w n (l + 1) := by
  unfold w
  have hl : n + 3 - l = n + 3 - (l + 1) + 1 := by
    rw [Nat.sub_add_eq, Nat.sub_add_cancel (Nat.le_sub_of_add_le' h)]
  rw [hl, Int.pow_succ, Int.mul_comm]

theorem w_top (n : Nat) : w n (n + 3) = 1 := by unfold w; simp
theorem w_three (n : Nat) : w n 3 = 2 ^ n := by unfold w; simp

theorem floor_window (x wd lo hi : Int) (hw : 0 < wd) : (lo ≤ x / wd ∧ x / wd ≤ hi) ↔ (lo * wd ≤ x ∧ x ≤ (hi + 1) * wd - 1) := by
  refine and_congr (Int.le_ediv_iff_mul_le hw) ?_
  rw [← Int.lt_add_one_iff, Int.ediv_lt_iff_lt_mul hw, Int.le_sub_one_iff]

theorem inBox_mono {lo hi lo' hi' : Int} (h1 : lo' ≤ lo) (h2 : hi ≤ hi') {k : List Int} (h : inBox lo hi k) : inBox lo' hi' k :=
  fun x hx => ⟨Int.le_trans h1 (h x hx).1, Int.le_trans (h x hx).2 h2⟩

def reg (n l : Nat) (k : List Int) : Prop := if l ≤ 2 then inBox (-3 * 2 ^ n) (3 * 2 ^ n - 1) k else adjL n l k

theorem reg_two (n : Nat) (k : List Int) : reg n 2 k = inBox (-3 * 2 ^ n) (3 * 2 ^ n - 1) k := if_pos (Nat.le_refl 2)

theorem reg_adj (n l : Nat) (h : 3 ≤ l) (k : List Int) : reg n l k = adjL n l k := if_neg (by omega)

theorem reg_step (n l : Nat) (h2 : 2 ≤ l) (h : l < n + 3) (k : List Int) : reg n (l + 1) k → reg n l k := by
  rcases Nat.eq_or_lt_of_le h2 with rfl | h3
  · have hp := w_pos n 3
    rw [reg_two, reg_adj n 3 (Nat.le_refl 3), ← w_three]
    exact inBox_mono (by omega) (by omega)
  · have hw := w_succ n l (by omega)
    have hp := w_pos n (l + 1)
    rw [reg_adj n l h3, reg_adj n (l + 1) (by omega)]
    exact inBox_mono (by omega) (by omega)

theorem winL_iff (n l : Nat) (h3 : 3 ≤ l) (h : l ≤ n + 3) (k : List Int) : winL n l k ↔ reg n (l - 1) k ∧ ¬ reg n l k := by
  unfold winL
  rw [reg_adj n l h3]
  rcases Nat.eq_or_lt_of_le h3 with rfl | h4
  · rw [if_pos rfl, reg_two, w_three]
  · have hl : l - 1 + 1 = l := Nat.sub_add_cancel (Nat.one_le_of_lt h4)
    have hw : w n (l - 1) = 2 * w n l := by
      have := w_succ n (l - 1) (hl.symm ▸ h)
      rwa [hl] at this
    rw [if_neg (by omega), reg_adj n (l - 1) (by omega)]
    unfold adjL
    rw [hw, Int.neg_mul, show 4 * w n l - 1 = 2 * (2 * w n l) - 1 by omega]

theorem antitone_of_step (P : Nat → Prop) (lo hi : Nat) (down : ∀ l, lo ≤ l → l < hi → P (l + 1) → P l) :
    ∀ a b, lo ≤ a → a ≤ b → b ≤ hi → P b → P a := by
  intro a b ha hab hb h
  induction b with
  | zero => cases Nat.le_zero.mp hab; exact h
  | succ b ih =>
    rcases Nat.eq_or_lt_of_le hab with rfl | hlt
    · exact h
    · exact ih (Nat.le_of_lt_succ hlt) (by omega) (down b (by omega) (by omega) h)

theorem shell_cover (P : Nat → Prop) (lo hi : Nat) (hle : lo ≤ hi)
    (anti : ∀ a b, lo ≤ a → a ≤ b → b ≤ hi → P b → P a) :
    P lo ↔ (P hi ∨ ∃ l, lo < l ∧ l ≤ hi ∧ P (l - 1) ∧ ¬ P l) := by
  constructor
  · intro h0
    clear anti
    induction hi with
    | zero => cases Nat.le_zero.mp hle; exact Or.inl h0
    | succ hi ih =>
      rcases Nat.eq_or_lt_of_le hle with rfl | hlt
      · exact Or.inl h0
      · rcases ih (Nat.le_of_lt_succ hlt) with h | ⟨l, h1, h2, h3⟩
        · by_cases hn : P (hi + 1)
          · exact Or.inl hn
          · exact Or.inr ⟨hi + 1, hlt, Nat.le_refl _, h, hn⟩
        · exact Or.inr ⟨l, h1, by omega, h3⟩
  · rintro (h | ⟨l, h1, h2, h3, _⟩)
    · exact anti lo hi (Nat.le_refl _) hle (Nat.le_refl _) h
    · exact anti lo (l - 1) (Nat.le_refl _) (Nat.le_sub_one_of_lt h1) (Nat.le_trans (Nat.sub_le l 1) h2) h3

theorem reg_anti (n : Nat) (k : List Int) : ∀ a b, 2 ≤ a → a ≤ b → b ≤ n + 3 → reg n b k → reg n a k :=
  antitone_of_step (fun l => reg n l k) 2 (n + 3) (fun l h2 h => reg_step n l h2 h k)

/-- **coverage**: for `n ≥ 1`, an image offset lies in the reported interval `[-3·2^n, 3·2^n − 1]^D` iff it is reached
    by the regular periodic pass (the adjacent boxes `[-1,1]^D`) or by the transfer of some level of the top tree -/
theorem C10_cover (n : Nat) (k : List Int) :
    inBox (-3 * 2 ^ n) (3 * 2 ^ n - 1) k ↔ (adjL n (n + 3) k ∨ ∃ l, 3 ≤ l ∧ l ≤ n + 3 ∧ winL n l k) := by
  rw [← reg_two, shell_cover (fun l => reg n l k) 2 (n + 3) (by omega) (reg_anti n k), reg_adj n (n + 3) (by omega)]
  refine or_congr_right (exists_congr fun l => ?_)
  constructor
  · exact fun ⟨h1, h2, h3⟩ => ⟨h1, h2, (winL_iff n l h1 h2 k).mpr h3⟩
  · exact fun ⟨h1, h2, h3⟩ => ⟨h1, h2, (winL_iff n l h1 h2 k).mp h3⟩

/-- **exactly once**: the regular pass and the transfers of different levels never reach the same image -/
theorem C10_disjoint (n : Nat) (k : List Int) :
    (adjL n (n + 3) k → ∀ l, 3 ≤ l → l ≤ n + 3 → ¬ winL n l k) ∧
    (∀ l l', 3 ≤ l → l < l' → l' ≤ n + 3 → winL n l k → ¬ winL n l' k) := by
  constructor
  · intro h l h3 hl hw
    rw [← reg_adj n (n + 3) (by omega)] at h
    exact ((winL_iff n l h3 hl k).mp hw).2 (reg_anti n k l (n + 3) (by omega) hl (Nat.le_refl _) h)
  · intro l l' h3 hlt hl' hw hw'
    -- the shell of `l'` lies in region `l' - 1`, hence in region `l`, which the shell of `l` avoids
    have h := ((winL_iff n l' (Nat.le_trans h3 (Nat.le_of_lt hlt)) hl' k).mp hw').1
    exact ((winL_iff n l h3 (Nat.le_trans (Nat.le_of_lt hlt) hl') k).mp hw).2
      (reg_anti n k l (l' - 1) (Nat.le_of_succ_le h3) (Nat.le_sub_one_of_lt hlt) (Nat.le_trans (Nat.sub_le l' 1) hl') h)

/-- within one level every image is summed at most once: the copy that contains `k` is the one at offset `⌊k / w⌋` -/
theorem C10_offset_unique (wd : Int) (hw : 0 < wd) (x o : Int) : (o * wd ≤ x ∧ x ≤ o * wd + wd - 1) ↔ o = x / wd := by
  have := floor_window x wd o o hw
  rw [Int.add_mul, Int.one_mul] at this
  rw [← this]
  omega

/-- `n = 0`: a single transfer at level 3 with window `[-3,3]^D` minus the adjacent boxes: interval `[-3,3]^D` -/
theorem C10_cover_zero (k : List Int) :
    inBox (-3) 3 k ↔ (inBox (-1) 1 k ∨ (inBox (-3) 3 k ∧ ¬ inBox (-1) 1 k)) := by
  constructor
  · intro h
    by_cases h1 : inBox (-1) 1 k
    · exact Or.inl h1
    · exact Or.inr ⟨h, h1⟩
  · rintro (h | h)
    · exact inBox_mono (by decide) (by decide) h
    · exact h.1

/-- the reported numbers: `6·2^n` repetitions per dimension for `n ≥ 1` -/
theorem C10_interval_size (n : Nat) : (3 * 2 ^ n - 1 : Int) - (-3 * 2 ^ n) + 1 = 6 * 2 ^ n := by omega

example : inBox (-3 * 2 ^ 1) (3 * 2 ^ 1 - 1) [5, -6] := by
  intro x hx; simp at hx; rcases hx with rfl | rfl <;> omega

/-- the model of the top tree performs exactly one transfer per level `3 … n+3`, with the windows `[-3,2]` at level 3
    and `[-2,3]` above -/
theorem topTree_transfers (D n : Nat) (hn : 1 ≤ n) (level1 : List Nat) (l : Nat) (codes : List Nat) :
    TopCall.m2l l codes ∈ topTreeCalls D (n : Int) level1 ↔
      (3 ≤ l ∧ l ≤ n + 3 ∧ codes = (if l = 3 then windowCodes D (-3) 2 else windowCodes D (-2) 3)) := by
  have hn0 : ¬ ((n : Int) < 0) := by omega
  have hne : ¬ n = 0 := by omega
  simp only [topTreeCalls, hn0, if_false, Int.toNat_natCast, hne, List.mem_append, List.mem_cons, List.mem_map,
    List.not_mem_nil, or_false, levelsUp, levelsDown, List.mem_filter, List.mem_range, decide_eq_true_eq, List.mem_reverse]
  constructor
  · intro h
    rcases h with ((h | ⟨a, ha, h⟩) | ⟨a, _, h⟩) | h
    · rcases h with h | ⟨a, _, h⟩
      · cases h
      · cases h
    · injection h with h1 h2
      subst h1
      exact ⟨ha.2, by omega, h2.symm⟩
    · cases h
    · cases h
  · intro ⟨h1, h2, h3⟩
    left; left; right
    exact ⟨l, ⟨by omega, h1⟩, by rw [h3]⟩

/-- the window test of the code (on the offset of the copy that contains the image) is the box test used in `winL` -/
theorem window_as_box (wd lo hi : Int) (hw : 0 < wd) (k : List Int) :
    (∀ x ∈ k, lo ≤ x / wd ∧ x / wd ≤ hi) ↔ inBox (lo * wd) ((hi + 1) * wd - 1) k := by
  constructor <;> intro h x hx
  · exact (floor_window x wd lo hi hw).mp (h x hx)
  · exact (floor_window x wd lo hi hw).mpr (h x hx)

end Tbfmm.C10
