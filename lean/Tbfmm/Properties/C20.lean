import Tbfmm.Model.P2P
import Mathlib.Tactic.Ring
import Mathlib.Algebra.BigOperators.Group.List.Basic
/-! C20 — the direct particle–particle routines implement the pairwise law, symmetrically.  They are taken at any field
`K`, with any `rs` in the place of `sqrt`; only the law needs `rs (1 / r²) = 1 / r`. -/
namespace Tbfmm.C20

open Tbfmm

variable {K : Type} [Field K] (rs : K → K)

/-- the scalar interface of the model, interpreted in a field -/
@[reducible] def fieldScalar : Scalar K := ⟨(· + ·), (· - ·), (· * ·), (· / ·), rs, 1, 0⟩

theorem s_add (a b : K) : @Scalar.add K (fieldScalar rs) a b = a + b := rfl
theorem s_sub (a b : K) : @Scalar.sub K (fieldScalar rs) a b = a - b := rfl
theorem s_mul (a b : K) : @Scalar.mul K (fieldScalar rs) a b = a * b := rfl
theorem s_div (a b : K) : @Scalar.div K (fieldScalar rs) a b = a / b := rfl
theorem s_sqrt (a : K) : @Scalar.sqrt K (fieldScalar rs) a = rs a := rfl
theorem s_one : @Scalar.one K (fieldScalar rs) = 1 := rfl
theorem s_zero : @Scalar.zero K (fieldScalar rs) = 0 := rfl

def r2 (s t : Part K) : K := (s.x - t.x) * (s.x - t.x) + (s.y - t.y) * (s.y - t.y) + (s.z - t.z) * (s.z - t.z)
/-- `inv_distance` as computed by the routines -/
def inv (s t : Part K) : K := rs (1 / r2 s t)
/-- common factor of the three force components -/
def kfac (s t : Part K) : K := (1 / r2 s t) * inv rs s t * (t.q * s.q)

theorem pairTerms_eq (s t : Part K) :
    @pairTerms K (fieldScalar rs) s t =
      ((s.x - t.x) * kfac rs s t, (s.y - t.y) * kfac rs s t, (s.z - t.z) * kfac rs s t, inv rs s t) := by
  simp only [pairTerms, kfac, inv, r2, s_add, s_sub, s_mul, s_div, s_sqrt, s_one]

/-- what a target gains from a list of sources -/
def gain (t : Part K) (srcs : List (Part K)) : Acc K :=
  ⟨(srcs.map fun s => (s.x - t.x) * kfac rs s t).sum, (srcs.map fun s => (s.y - t.y) * kfac rs s t).sum,
   (srcs.map fun s => (s.z - t.z) * kfac rs s t).sum, (srcs.map fun s => inv rs s t * s.q).sum⟩

def Acc.plus (a b : Acc K) : Acc K := ⟨a.fx + b.fx, a.fy + b.fy, a.fz + b.fz, a.pot + b.pot⟩

theorem r2_symm (s t : Part K) : r2 s t = r2 t s := by simp only [r2]; ring
theorem inv_symm (s t : Part K) : inv rs s t = inv rs t s := by simp only [inv, r2_symm]
theorem kfac_symm (s t : Part K) : kfac rs s t = kfac rs t s := by
  simp only [kfac, inv_symm rs s t, r2_symm s t]; ring

/-- what target `t` gains from the single source `s` -/
def term (t s : Part K) : Acc K := ⟨(s.x - t.x) * kfac rs s t, (s.y - t.y) * kfac rs s t, (s.z - t.z) * kfac rs s t, inv rs s t * s.q⟩

theorem Acc.plus_assoc (a b c : Acc K) : Acc.plus (Acc.plus a b) c = Acc.plus a (Acc.plus b c) := by
  simp only [Acc.plus, add_assoc]

theorem Acc.plus_zero (a : Acc K) : Acc.plus a ⟨0, 0, 0, 0⟩ = a := by
  cases a; simp [Acc.plus]

theorem gain_nil (t : Part K) : gain rs t [] = ⟨0, 0, 0, 0⟩ := by simp [gain]

theorem gain_cons (t s : Part K) (srcs : List (Part K)) : gain rs t (s :: srcs) = Acc.plus (term rs t s) (gain rs t srcs) := by
  simp only [gain, term, Acc.plus, List.map_cons, List.sum_cons]

theorem remoteInner_cons (t s : Part K) (rest : List (Part K)) (acc : Acc K) :
    @remoteInner K (fieldScalar rs) t (s :: rest) acc = @remoteInner K (fieldScalar rs) t rest (Acc.plus acc (term rs t s)) := by
  simp only [remoteInner, pairTerms_eq, s_add, s_mul, Acc.plus, term]

theorem remoteInner_eq (t : Part K) (srcs : List (Part K)) (acc : Acc K) :
    @remoteInner K (fieldScalar rs) t srcs acc = Acc.plus acc (gain rs t srcs) := by
  induction srcs generalizing acc with
  | nil => rw [gain_nil, Acc.plus_zero]; rfl
  | cons s rest ih => rw [remoteInner_cons, ih, gain_cons, Acc.plus_assoc]

/-- **one-sided routine**: every target's accumulators grow by the sum, over the given sources, of the pair terms.
    The `⟨0, 0, 0, 0⟩` is the routine's temporary: the statement keeps its order of additions -/
theorem C20_remote (srcs : List (Part K)) (tgts : List (Part K × Acc K)) :
    @fullRemote K (fieldScalar rs) srcs tgts = tgts.map fun (t, tr) => (t, Acc.plus tr (Acc.plus ⟨0, 0, 0, 0⟩ (gain rs t srcs))) := by
  simp only [fullRemote]
  apply List.map_congr_left
  intro ⟨t, tr⟩ _
  simp only [remoteInner_eq]
  rfl

/-- the physical law: with `rs (1/r²) = 1/r` the potential term is `q_s / r` and the force term is
    `q_t q_s (x_s - x_t) / r³` (`hr` is not needed) -/
theorem C20_law (s t : Part K) (r : K) (hr : r ≠ 0) (hr2 : r2 s t = r * r) (hrs : rs (1 / (r * r)) = 1 / r) :
    inv rs s t * s.q = s.q / r ∧ (s.x - t.x) * kfac rs s t = t.q * s.q * (s.x - t.x) / (r * r * r) := by
  simp only [inv, kfac, hr2, hrs]
  constructor <;> ring

/-- **Newton's third law, per pair**: the source receives exactly the negation of the force term the target
    receives, and the potential term with the charges exchanged -/
theorem C20_mutual_step (t : Part K) (s : Part K) (r : Acc K) (rest : List (Part K × Acc K)) (acc : Acc K) (done : List (Part K × Acc K)) :
    @mutualInner K (fieldScalar rs) t ((s, r) :: rest) acc done =
      @mutualInner K (fieldScalar rs) t rest
        ⟨acc.fx + (s.x - t.x) * kfac rs s t, acc.fy + (s.y - t.y) * kfac rs s t, acc.fz + (s.z - t.z) * kfac rs s t, acc.pot + inv rs s t * s.q⟩
        ((s, ⟨r.fx - (s.x - t.x) * kfac rs s t, r.fy - (s.y - t.y) * kfac rs s t, r.fz - (s.z - t.z) * kfac rs s t, r.pot + inv rs s t * t.q⟩) :: done) := by
  simp only [mutualInner, pairTerms_eq, s_add, s_sub, s_mul]

/-- what the *source* of a mutual pair receives is what it would gain as the target of the exchanged pair -/
theorem recv_eq (s t : Part K) (r : Acc K) :
    (⟨r.fx - (s.x - t.x) * kfac rs s t, r.fy - (s.y - t.y) * kfac rs s t, r.fz - (s.z - t.z) * kfac rs s t, r.pot + inv rs s t * t.q⟩ : Acc K)
      = Acc.plus r (term rs s t) := by
  have flip : ∀ a x y k : K, a - (x - y) * k = a + (y - x) * k := fun a x y k => by ring
  simp only [Acc.plus, term, kfac_symm rs t s, inv_symm rs t s, flip]

theorem mutualInner_cons (t s : Part K) (r : Acc K) (rest : List (Part K × Acc K)) (acc : Acc K) (done : List (Part K × Acc K)) :
    @mutualInner K (fieldScalar rs) t ((s, r) :: rest) acc done =
      @mutualInner K (fieldScalar rs) t rest (Acc.plus acc (term rs t s)) ((s, Acc.plus r (term rs s t)) :: done) := by
  rw [C20_mutual_step, recv_eq]; rfl

theorem mutualInner_eq (t : Part K) (srcs : List (Part K × Acc K)) (acc : Acc K) (done : List (Part K × Acc K)) :
    @mutualInner K (fieldScalar rs) t srcs acc done =
      (Acc.plus acc (gain rs t (srcs.map (·.1))), done.reverse ++ srcs.map fun sr => (sr.1, Acc.plus sr.2 (term rs sr.1 t))) := by
  induction srcs generalizing acc done with
  | nil => simp [mutualInner, gain_nil, Acc.plus_zero]
  | cons sr rest ih =>
    rw [mutualInner_cons, ih, List.map_cons, gain_cons, Acc.plus_assoc, List.reverse_cons, List.append_assoc]; rfl

theorem mutualInner_sources_parts (t : Part K) (srcs : List (Part K × Acc K)) (acc : Acc K) (done : List (Part K × Acc K)) :
    ((@mutualInner K (fieldScalar rs) t srcs acc done).2).map (·.1) = done.reverse.map (·.1) ++ srcs.map (·.1) := by
  simp [mutualInner_eq]

theorem fullMutual_cons (srcs : List (Part K × Acc K)) (t : Part K) (tr : Acc K) (rest doneT : List (Part K × Acc K)) :
    @fullMutual K (fieldScalar rs) srcs ((t, tr) :: rest) doneT =
      @fullMutual K (fieldScalar rs) (@mutualInner K (fieldScalar rs) t srcs ⟨0, 0, 0, 0⟩ []).2 rest
        ((t, Acc.plus tr (@mutualInner K (fieldScalar rs) t srcs ⟨0, 0, 0, 0⟩ []).1) :: doneT) := rfl

/-- target side in the form of `C20_remote`, zero temporary included -/
theorem fullMutual_eq (srcs tgts doneT : List (Part K × Acc K)) :
    @fullMutual K (fieldScalar rs) srcs tgts doneT =
      (srcs.map fun sr => (sr.1, Acc.plus sr.2 (gain rs sr.1 (tgts.map (·.1)))),
       doneT.reverse ++ tgts.map fun ttr => (ttr.1, Acc.plus ttr.2 (Acc.plus ⟨0, 0, 0, 0⟩ (gain rs ttr.1 (srcs.map (·.1)))))) := by
  induction tgts generalizing srcs doneT with
  | nil => simp [fullMutual, gain_nil, Acc.plus_zero]
  | cons ttr rest ih =>
    obtain ⟨t, tr⟩ := ttr
    rw [fullMutual_cons, mutualInner_eq, ih]
    simp only [List.reverse_nil, List.nil_append, List.map_map, Function.comp_def, List.map_cons, gain_cons, Acc.plus_assoc,
      List.reverse_cons, List.append_assoc, List.singleton_append]

/-- **mutual = one-sided on the target side**: the targets end with exactly the values the one-sided
    routine gives them -/
theorem C20_mutual_targets (srcs : List (Part K × Acc K)) (tgts : List (Part K × Acc K)) (doneT : List (Part K × Acc K)) :
    (@fullMutual K (fieldScalar rs) srcs tgts doneT).2 = doneT.reverse ++ @fullRemote K (fieldScalar rs) (srcs.map (·.1)) tgts := by
  rw [fullMutual_eq, C20_remote]

/-- empty inputs: without sources every target gets the zero temporary added (the statement keeps the `+ 0`); the
    in-leaf routine on no particle returns none -/
theorem C20_empty (tgts : List (Part K × Acc K)) :
    (@fullRemote K (fieldScalar rs) [] tgts = tgts.map (fun x => (x.1, (⟨x.2.fx + 0, x.2.fy + 0, x.2.fz + 0, x.2.pot + 0⟩ : Acc K)))) ∧
    @genericInner K (fieldScalar rs) [] = [] :=
  ⟨rfl, rfl⟩

/-- a single particle interacts with nobody in the in-leaf routine (no self term) -/
theorem C20_single (t : Part K) (tr : Acc K) : @genericInner K (fieldScalar rs) [(t, tr)] = [(t, tr)] := rfl

theorem gain_append (t : Part K) (l1 l2 : List (Part K)) : gain rs t (l1 ++ l2) = Acc.plus (gain rs t l1) (gain rs t l2) := by
  simp only [gain, Acc.plus, List.map_append, List.sum_append]

theorem mutualInner_sources (t : Part K) (srcs : List (Part K × Acc K)) (acc : Acc K) (done : List (Part K × Acc K)) :
    (@mutualInner K (fieldScalar rs) t srcs acc done).2 = done.reverse ++ srcs.map (fun sr => (sr.1, Acc.plus sr.2 (term rs sr.1 t))) := by
  rw [mutualInner_eq]

/-- **mutual routine, source side**: every source ends with its accumulators grown by what it gains, as a
    target, from all the targets -/
theorem C20_mutual_sources (srcs : List (Part K × Acc K)) (tgts : List (Part K × Acc K)) (doneT : List (Part K × Acc K)) :
    (@fullMutual K (fieldScalar rs) srcs tgts doneT).1 = srcs.map (fun sr => (sr.1, Acc.plus sr.2 (gain rs sr.1 (tgts.map (·.1))))) := by
  rw [fullMutual_eq]

theorem innerRow_eq_mutualInner {α : Type} [Scalar α] (t : Part α) (tr : Acc α) (rest done : List (Part α × Acc α)) :
    innerRow t tr rest done = mutualInner t rest tr done := by
  induction rest generalizing tr done with
  | nil => rfl
  | cons sr rest ih => exact ih _ _

/-- one row of the in-leaf routine: the target gains from every later particle, every later particle gains
    from the target -/
theorem innerRow_eq (t : Part K) (tr : Acc K) (rest done : List (Part K × Acc K)) :
    @innerRow K (fieldScalar rs) t tr rest done =
      (Acc.plus tr (gain rs t (rest.map (·.1))), done.reverse ++ rest.map (fun sr => (sr.1, Acc.plus sr.2 (term rs sr.1 t)))) := by
  rw [@innerRow_eq_mutualInner K (fieldScalar rs), mutualInner_eq]

theorem genericInnerF_length (f : Nat) (l : List (Part K × Acc K)) : (@genericInnerF K (fieldScalar rs) f l).length = l.length := by
  induction f generalizing l with
  | zero => simp [genericInnerF]
  | succ f ih =>
    cases l with
    | nil => simp [genericInnerF]
    | cons ttr rest =>
      obtain ⟨t, tr⟩ := ttr
      simp only [genericInnerF, innerRow_eq, List.reverse_nil, List.nil_append, List.length_cons, ih, List.length_map]

/-- `C20_inner` for any sufficient fuel (free in the induction) -/
theorem genericInnerF_get (f : Nat) (l : List (Part K × Acc K)) (hf : l.length ≤ f) (i : Nat) (hi : i < l.length) :
    (@genericInnerF K (fieldScalar rs) f l)[i]? =
      some (l[i].1, Acc.plus l[i].2 (gain rs l[i].1 ((l.eraseIdx i).map (·.1)))) := by
  induction f generalizing l i with
  | zero => simp at hf; subst hf; simp at hi
  | succ f ih =>
    cases l with
    | nil => simp at hi
    | cons ttr rest =>
      obtain ⟨t, tr⟩ := ttr
      simp only [genericInnerF, innerRow_eq, List.reverse_nil, List.nil_append]
      cases i with
      | zero => rfl
      | succ i =>
        have hi' : i < rest.length := Nat.lt_of_succ_lt_succ hi
        have hl : (rest.map (fun sr => (sr.1, Acc.plus sr.2 (term rs sr.1 t)))).length ≤ f := by
          rw [List.length_map]; exact Nat.le_of_succ_le_succ hf
        -- the rest of the list, every particle having gained from the head `t` (`innerRow_eq`), goes through the routine again
        have hrec := ih (rest.map (fun sr => (sr.1, Acc.plus sr.2 (term rs sr.1 t)))) hl i (by rw [List.length_map]; exact hi')
        simp only [List.getElem?_cons_succ, List.getElem_cons_succ, List.eraseIdx_cons_succ, List.map_cons]
        rw [hrec]
        -- `rest[i]` has gained `term rest[i] t` from the head and then its gain from the others of `rest`:
        -- that is its gain from `t ::` the others (`gain_cons`)
        simp only [List.getElem_map, List.eraseIdx_map, List.map_map, gain_cons, Option.some.injEq, Prod.mk.injEq, true_and]
        rw [Acc.plus_assoc]
        congr 2

/-- **C20, in-leaf routine**: particle `i` ends with its accumulators grown by what it gains from every *other*
    particle of the leaf — each unordered pair once, in both directions, no self term -/
theorem C20_inner (l : List (Part K × Acc K)) (i : Nat) (hi : i < l.length) :
    (@genericInner K (fieldScalar rs) l)[i]? = some (l[i].1, Acc.plus l[i].2 (gain rs l[i].1 ((l.eraseIdx i).map (·.1)))) :=
  genericInnerF_get rs l.length l (Nat.le_refl _) i hi

theorem C20_inner_length (l : List (Part K × Acc K)) : (@genericInner K (fieldScalar rs) l).length = l.length :=
  genericInnerF_length rs l.length l

example (a b c : Part K) (z : Acc K) :
    (@genericInner K (fieldScalar rs) [(a, z), (b, z), (c, z)])[1]? = some (b, Acc.plus z (gain rs b [a, c])) :=
  C20_inner rs [(a, z), (b, z), (c, z)] 1 (by simp)

end Tbfmm.C20
