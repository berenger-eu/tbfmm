import Tbfmm.Model.Tree
/-!
# Model of the upward / downward pass: `TbfAlgorithm::M2M/L2L` (the two-cursor level walk) and
`TbfGroupKernelInterface::M2M/L2L` (start lookup + sibling batching)
-/
namespace Tbfmm

/-- one kernel call of the upward/downward pass: (parent, children handed over) -/
abbrev Run := Nat × List Nat

/-- the C++ sibling loop in "current batch non-empty" form:
    `children.emplace_back(child); ++idxChild;
     if(idxChild != n && parent(child[idxChild]) != parent[idxParent]) { emit; ++idxParent; clear }`
    and the final `if(nbChildren) emit` -/
def sib2 (par : Nat → Nat) : List Nat → List Nat → List Nat → List Run
  | [], _, _ => []
  | p :: _, acc, [] => [(p, acc)]
  | p :: ps, acc, c2 :: cs =>
    if par c2 ≠ p then (p, acc) :: (match ps with | [] => [] | _ :: _ => sib2 par ps [c2] cs)
    else sib2 par (p :: ps) (acc ++ [c2]) cs

/-- `TbfGroupKernelInterface::M2M/L2L`: `startingIndex = max(parent(lower.first), upper.first)`,
    the two lookups (modelled as "first element not below `start`"; that they hit exactly is the
    content of the two `assert(found…)`, proved in `Proofs/LevelWalk`), then the sibling loop -/
def wrapPure (par : Nat → Nat) (Lw U : Group) : List Run :=
  match Lw, U with
  | c0 :: _, u0 :: _ =>
    let start := max (par c0) u0
    match U.dropWhile (fun u => decide (u < start)), Lw.dropWhile (fun c => decide (par c < start)) with
    | p :: ps, c :: cs => sib2 par (p :: ps) [c] cs
    | _, _ => []
  | _, _ => []

/-- the two `assert(found…)` of the wrapper -/
def wrapAsserts (par : Nat → Nat) (Lw U : Group) : Bool :=
  match Lw, U with
  | c0 :: _, u0 :: _ =>
    let start := max (par c0) u0
    (findCell U start).isSome && (findByParent par Lw start).isSome
  | _, _ => false

/-- `TbfAlgorithm::M2M/L2L`: the two-cursor walk over the groups of two consecutive levels -/
def walk (par : Nat → Nat) : List Group → List Group → List (Group × Group)
  | [], _ => []
  | _, [] => []
  | U :: us, [Lw] =>
    (U, Lw) :: (if par (lastD Lw) ≤ lastD U then [] else walk par us [Lw])
  | U :: us, Lw :: L2 :: ls =>
    (U, Lw) ::
      (if par (lastD Lw) ≤ lastD U then
        (if lastD U < par (L2.headD 0) then walk par us (L2 :: ls) else walk par (U :: us) (L2 :: ls))
       else walk par us (Lw :: L2 :: ls))
termination_by us ls => us.length + ls.length

/-- all kernel calls of one level of the upward (or downward) pass, in call order -/
def calls (par : Nat → Nat) (up lo : List Group) : List Run :=
  (walk par up lo).flatMap fun x => wrapPure par x.2 x.1

end Tbfmm
