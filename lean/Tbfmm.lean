import Tbfmm.Model.Morton
import Tbfmm.Model.Lists
import Tbfmm.Model.Search
import Tbfmm.Model.Tree
import Tbfmm.Model.Walk
import Tbfmm.Model.Exec
import Tbfmm.Model.Kernel
import Tbfmm.Model.Periodic
import Tbfmm.Model.Coord
import Tbfmm.Model.Layout
import Tbfmm.Model.P2P
import Tbfmm.Model.Tasks
import Tbfmm.Spec.Runs
import Tbfmm.Spec.Fmm
import Tbfmm.Proofs.ListLemmas
import Tbfmm.Proofs.Morton
import Tbfmm.Proofs.Codes
import Tbfmm.Proofs.Vec
import Tbfmm.Proofs.Far
import Tbfmm.Proofs.Positions
import Tbfmm.Proofs.FarInt
import Tbfmm.Proofs.Images
import Tbfmm.Proofs.SpecCells
import Tbfmm.Proofs.SpecPairs
import Tbfmm.Proofs.M2LPairs
import Tbfmm.Proofs.P2PPairs
import Tbfmm.Proofs.InterElem
import Tbfmm.Proofs.M2LChar
import Tbfmm.Proofs.P2PChar
import Tbfmm.Proofs.Leaves
import Tbfmm.Proofs.Particles
import Tbfmm.Proofs.Runs
import Tbfmm.Proofs.LevelUp
import Tbfmm.Proofs.LevelWalk
import Tbfmm.Proofs.BuiltLevels
import Tbfmm.Proofs.Search
import Tbfmm.Proofs.Export
import Tbfmm.Proofs.Layout
import Tbfmm.Proofs.ExecChain
import Tbfmm.Proofs.RunBatching
import Tbfmm.Proofs.SliceByGroup
import Tbfmm.Proofs.InterPasses
import Tbfmm.Proofs.CellPasses
import Tbfmm.Proofs.Grouping
import Tbfmm.Proofs.Refinement
import Tbfmm.Proofs.SumOver
import Tbfmm.Proofs.KernelState
import Tbfmm.Proofs.Phases
import Tbfmm.Proofs.Passes
import Tbfmm.Proofs.SpecSums
import Tbfmm.Proofs.Transfer
import Tbfmm.Proofs.Results
import Tbfmm.Proofs.BuiltPhases
import Tbfmm.Proofs.FarField
import Tbfmm.Proofs.PeriodicImages
import Tbfmm.Proofs.Values
import Tbfmm.Proofs.Linear
import Tbfmm.Proofs.Weighted
import Tbfmm.Proofs.Sched
import Tbfmm.Proofs.TaskCommute
import Tbfmm.Proofs.SchedValues
import Tbfmm.Proofs.Examples
import Tbfmm.Properties.C10
import Tbfmm.Properties.C12
import Tbfmm.Properties.C18
