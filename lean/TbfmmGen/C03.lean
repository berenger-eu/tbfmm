import Tbfmm.Generated.OmpTasks
/-! Over the tables regenerated from /repo/src on every run.  `decide +kernel` because the checks compare `String`s, which
reduce slowly: plain `decide` would evaluate each table once in the elaborator and once more in the kernel. -/
namespace Tbfmm.Generated

/-- declared dependences cover the actual accesses of every task of both OpenMP executors -/
theorem omp_declared_covers_actual : ∀ t ∈ ompTasks, t.covers wrapperFootprints = true := by decide +kernel

/-- no task of either OpenMP executor reads a variable whose lifetime may have ended when it runs -/
theorem omp_capture_safe : ∀ t ∈ ompTasks, t.captureSafe = true := by decide +kernel

/-- every task is created with an explicit data-sharing default and at least one written buffer -/
theorem omp_tasks_wellformed : ∀ t ∈ ompTasks, (t.defaultShared = true ∧ t.commutes ≠ [] ∧ t.calls ≠ []) := by decide +kernel

/-- Specx: declared accesses cover the actual accesses of every task -/
theorem specx_declared_covers_actual : ∀ t ∈ specxTasks, t.covers wrapperFootprints = true := by decide +kernel

/-- Specx: no task uses a variable whose lifetime may have ended when it runs -/
theorem specx_capture_safe : ∀ t ∈ specxTasks, t.captureSafe = true := by decide +kernel

/-- the task bodies receive constant views exactly for the declared reads, and every task declares a written buffer -/
theorem specx_tasks_wellformed : ∀ t ∈ specxTasks, (t.modesMatch = true ∧ t.commutes ≠ [] ∧ t.calls ≠ []) := by decide +kernel

/-- StarPU: submitted handles match the codelets' modes and cover, buffer by buffer, what the callbacks' wrapper calls touch -/
theorem starpu_declared_covers_actual :
    ∀ t ∈ starpuTasks, t.covers wrapperFootprints starpuLayouts starpuCodelets starpuCallbacks = true := by decide +kernel

/-- StarPU: everything a task is handed outlives it, and is unpacked with the types it was packed with -/
theorem starpu_values_safe : ∀ t ∈ starpuTasks, t.valuesSafe starpuFiles starpuCodelets starpuCallbacks = true := by decide +kernel

/-- StarPU: every codelet is used by a submission, and every submission writes some buffer -/
theorem starpu_tasks_wellformed :
    (∀ c ∈ starpuCodelets, starpuTasks.any (fun t => t.file == c.file && t.codelet == c.name) = true) ∧
    (∀ t ∈ starpuTasks, t.handles.any (·.1) = true) := by decide +kernel

end Tbfmm.Generated
