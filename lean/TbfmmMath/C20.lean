import Tbfmm.Properties.C20
